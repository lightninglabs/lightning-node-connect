import LncModel.Facts.Generated
/- C14 on the control skeletons of Send and Recv regenerated from /repo/gbn/gbn_conn.go. -/
namespace Lnc.Inst.C14
open Lnc.Facts

/-- **Send's chunk loop ends only by returning** — with the error of a chunk that
    could not be queued, or after the final chunk (the model's `split` emits
    chunks up to and including the final one): no `break` leaves it, and its
    last statements are the final-chunk test and the return -/
theorem send_loop_exits_by_return :
    skel_Send.contains "break" = false ∧ skel_Send.contains "continue" = false ∧
    skel_Send.reverse.take 3 = ["return", "cond:packet.FinalChunk", "if"] ∧
    (skel_Send.filter (· == "for")).length = 1 := by decide +kernel

/-- **Recv appends every packet to the connection's reassembly buffer before it
    looks at the FinalChunk flag** (the model's `recvCalls`: the partial
    message is connection state; no path returns a packet's payload without
    the chunks already buffered).  `order_Recv` is the translator's view of the
    function after helper expansion: the one receive from `recvDataChan`, the one
    `append`, the one condition on `.FinalChunk`, in source order -/
theorem recv_appends_before_final_test :
    order_Recv = ["recv", "append", "final-test"] := by decide +kernel

end Lnc.Inst.C14
