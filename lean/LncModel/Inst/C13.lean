import LncModel.Props.C13
import LncModel.Facts.Generated
/- C13 on the control-flow facts regenerated from /repo. -/
namespace Lnc.Inst.C13
open Lnc.Facts Lnc.Gbn.Control

/-- **every select the send loop can rest in — the outer one and the one it
    sits in while the window is full — lists the ping and the pong ticker** -/
theorem all_resting_selects_service_keepalive :
    (restingSelects sel_sendPacketsForever).all servicesKeepalive = true ∧
    (restingSelects sel_sendPacketsForever).length = 2 := by decide +kernel

/-- every received packet resets the ping timer and pauses the pong timer -/
theorem receive_resets_ping_pauses_pong :
    calls_receivePacketsForever.contains "g.pingTicker.Reset" = true ∧
    calls_receivePacketsForever.contains "g.pongTicker.Pause" = true := by decide +kernel

/-- a running pong timer is never restarted by a ping -/
theorem pong_reset_guarded : guarded_pongReset.all id = true ∧ guarded_pongReset.length = 2 := by decide +kernel

/-- the loop is away from those selects for a bounded time only: waitForSync has a timer case -/
theorem resend_round_bounded :
    sel_waitForSync.all (fun s => s.hasTimer) = true ∧ sel_waitForSync.length = 1 ∧
    gbn_awaitingTimeoutMultiplier = some 3 := by decide +kernel

end Lnc.Inst.C13
