import LncModel.Facts.Generated
/- C10 on the control skeletons of the two handshake functions regenerated from /repo/gbn. -/
namespace Lnc.Inst.C10
open Lnc.Facts

def Srv := skel_serverHandshake
def Cli := skel_clientHandshake

/-- **every SYN the server adopts passes the window check**: the check sits behind
    the `recvClientSYN` label, i.e. on the path of the first SYN and of every
    re-SYN (`goto recvClientSYN`), and before the echo is sent -/
theorem every_syn_is_validated :
    Srv.idxOf "labeldef:recvClientSYN" < Srv.idxOf "cond:n == 0 || n == math.MaxUint8" ∧
    Srv.idxOf "cond:n == 0 || n == math.MaxUint8" < Srv.idxOf "call:g.cfg.sendToStream" ∧
    (Srv.filter (· == "cond:n == 0 || n == math.MaxUint8")).length = 1 ∧
    (Srv.filter (· == "labeldef:recvClientSYN")).length = 1 := by decide +kernel

/-- **every way out of the server's handshake loop that means success goes through
    `setN`**: `setN` is called in one place only, the last statement before the
    function's final return, outside the loop (the returns inside the loop are
    error or shutdown paths; every other way out of the loop falls through to it) -/
theorem server_adopts_window_on_every_exit :
    Srv.reverse.take 2 = ["return", "call:g.setN"] ∧
    (Srv.filter (· == "call:g.setN")).length = 1 := by decide +kernel

/-- the `resent` shortcut (complete on SYNACK / DATA) is taken only after the
    server has restarted its handshake: the flag is tested right where the
    shortcut leaves the loop, and it is not set by the loop's header -/
theorem resent_shortcut_guarded :
    (((Srv.drop (Srv.idxOf "cond:resent")).take 4) =
        ["cond:resent", "call:g.timeoutManager.Received", "break", "label:handshakeLoop"] ∨
     -- the same test written the other way round
     ((Srv.drop (Srv.idxOf "cond:!resent")).take 5) =
        ["cond:!resent", "continue", "call:g.timeoutManager.Received", "break", "label:handshakeLoop"]) ∧
    ((Srv.drop (Srv.idxOf "labeldef:handshakeLoop")).take 2) = ["labeldef:handshakeLoop", "for"] ∧
    Srv.contains "forpost" = false := by decide +kernel

/-- the client re-arms its handshake timeout for every wait (a fresh `time.After`
    inside the loop) and completes only on an echo of its own window -/
theorem client_waits :
    Cli.contains "case:recv time.After(timeout)" = true ∧
    Cli.idxOf "labeldef:handshake" < Cli.idxOf "call:g.timeoutManager.GetHandshakeTimeout" ∧
    Cli.contains "cond:respSYN.N != g.cfg.n" = true ∧
    Cli.idxOf "cond:respSYN.N != g.cfg.n" < Cli.idxOf "call:new(PacketSYNACK).Serialize" := by decide +kernel

end Lnc.Inst.C10
