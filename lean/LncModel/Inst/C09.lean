import LncModel.Facts.Generated
/- C09 on the control skeleton of the send loop regenerated from /repo/gbn/gbn_conn.go. -/
namespace Lnc.Inst.C09
open Lnc.Facts

/-- the part of the skeleton from the first occurrence of `a` (inclusive) -/
def fromTok (l : List String) (a : String) : List String := l.drop (l.idxOf a)

/-- the part before the first occurrence of `b` -/
def upTo (l : List String) (b : String) : List String := l.take (l.idxOf b)

def isJump (t : String) : Bool := t == "continue" || t == "break" || t == "goto"

/-- **every packet that enters the queue is followed by the window-full wait**
    (the model's `sendNew` is enabled only when `size < n`): between
    `addPacket` and the wait loop there is no `continue`, `break` or `goto`
    (a packet, data or ping, cannot skip the wait), and the wait loop is left
    only when `size() < n` -/
theorem window_wait_not_skipped :
    skel_sendPacketsForever.contains "call:g.sendQueue.addPacket" = true ∧
    ((upTo (fromTok skel_sendPacketsForever "call:g.sendQueue.addPacket") "for").any isJump) = false ∧
    (((fromTok (fromTok skel_sendPacketsForever "call:g.sendQueue.addPacket") "for").take 5) =
        ["for", "if", "cond:g.sendQueue.size() < g.cfg.n", "call:g.sendQueue.size", "break"] ∨
     -- the same loop written with its exit test in the header
     ((fromTok (fromTok skel_sendPacketsForever "call:g.sendQueue.addPacket") "for").take 2) =
        ["for", "forcond:g.sendQueue.size() >= g.cfg.n"]) := by decide +kernel

/-- there is exactly one place where packets enter the queue -/
theorem single_entry : (skel_sendPacketsForever.filter (· == "call:g.sendQueue.addPacket")).length = 1 := by decide +kernel

/-- **every response that makes room wakes the window wait** (repair 611abab):
    in the receive loop the signal that releases a sender waiting on a full
    window is raised after `processACK` and after `processNACK` — in the NACK
    arm before the `!shouldResend` shortcut, so also for a NACK that empties the
    queue without asking for a resend -/
theorem room_wakes_sender :
    (let s := fromTok skel_receivePacketsForever "call:g.sendQueue.processACK"
     (upTo s "call:g.sendQueue.processNACK").contains "send:g.receivedACKSignal" = true) ∧
    (let s := fromTok skel_receivePacketsForever "call:g.sendQueue.processNACK"
     (upTo s "cond:!shouldResend").contains "send:g.receivedACKSignal" = true ∧
     s.contains "cond:!shouldResend" = true) := by decide +kernel

end Lnc.Inst.C09
