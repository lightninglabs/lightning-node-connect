import LncModel.Facts.Generated
/- C05: the way the layers are plugged together in /repo/mailbox, re-extracted every run. -/
namespace Lnc.Inst.C05
open Lnc.Facts

def sub (l : List String) (pat : List String) : Bool := (l.filter (pat.contains ·)) == pat

/-- connKit.Write is one MsgData, one SendControlMsg; SendControlMsg is
    Serialize then one gbn Send (the model's `kitSend`, one GBN message per write) -/
theorem write_path :
    sub events_kitWrite ["call:NewMsgData", "call:k.impl.SendControlMsg"] = true ∧
    sub events_cliSendCtl ["call:controlMsg.Serialize", "call:c.gbnConn.Send"] = true ∧
    sub events_srvSendCtl ["call:controlMsg.Serialize", "call:c.gbnConn.Send"] = true ∧
    mb_ProtocolVersion = some 0 := by decide +kernel

/-- connKit.Read refills its buffer from ReceiveControlMsg (gbn Recv then
    Deserialize) only when the buffer is empty, then reads from the buffer
    (the model's `kitRecvAll` followed by `bufRead`) -/
theorem read_path :
    sub events_kitRead ["call:k.recvBuffer.Len", "call:k.impl.ReceiveControlMsg", "call:k.recvBuffer.Write", "call:k.recvBuffer.Read"] = true ∧
    sub events_cliRecvCtl ["call:c.gbnConn.Recv", "call:receive.Deserialize"] = true ∧
    sub events_srvRecvCtl ["call:c.gbnConn.Recv", "call:receive.Deserialize"] = true := by decide +kernel

/-- the mailbox never enables GBN chunking (`packetsOf` uses maxChunk = 0) -/
theorem no_chunking_in_mailbox : gbnOptions_mailbox.contains "gbn.WithMaxSendSize" = false := by decide +kernel

end Lnc.Inst.C05
