import LncModel.Props.C07
import LncModel.Facts.Generated
/- C07 instantiated on the facts regenerated from /repo on this run. -/
namespace Lnc.Inst.C07
open Lnc Lnc.Gbn Lnc.Facts

/-- the DATA guard of this tree covers the whole 4-byte header -/
theorem data_guard_ge_4 : ∃ g, guard_DATA = some g ∧ 4 ≤ g := by decide +kernel

theorem fixed_guards_cover_reads :
    [guard_ACK, guard_NACK, guard_SYN] = [some 2, some 2, some 2] := by decide +kernel

theorem gbn_deserialize_no_panic_this_tree (b : Bytes) :
    (deserializeG (guard_DATA.getD 0) b).isPanic = false :=
  Lnc.Props.C07.gbn_deserialize_no_panic _ (by decide) b

theorem dataPhaseStep_total_this_tree (st : EpState) (h : st.WF) (b : Bytes) :
    ∃ r, dataPhaseStep (guard_DATA.getD 0) st b = .ok r ∧
      ∀ st' reply d, r = .continue st' reply d → st'.WF :=
  Lnc.Props.C07.dataPhaseStep_total _ (by decide) st h b

end Lnc.Inst.C07
