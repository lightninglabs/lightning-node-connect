import LncModel.Props.C02
import LncModel.Facts.Generated
/- C02 on the constants regenerated from /repo. -/
namespace Lnc.Inst.C02
open Lnc.Facts Lnc.Mailbox.Record

theorem framing : mb_macSize = some macSize ∧ mb_encHeaderSize = some hdrLen := by decide +kernel
theorem record_reads_full : reads_ReadHeader = ["full"] ∧ reads_ReadBody = ["full"] := by decide +kernel

/-- **an authentication failure is latched by both readers** (the model's
    `failed` flag): ReadHeader and ReadBody refuse to work once `readAuthErr` is
    set, and each sets it after its decrypt (when that fails) -/
theorem auth_error_latched_in_both_readers :
    skel_Machine_ReadHeader.take 3 = ["if", "cond:b.readAuthErr != nil", "return"] ∧
    skel_Machine_ReadBody.take 3 = ["if", "cond:b.readAuthErr != nil", "return"] ∧
    (skel_Machine_ReadHeader.drop (skel_Machine_ReadHeader.idxOf "call:b.recvCipher.Decrypt")).contains "assign:b.readAuthErr" = true ∧
    (skel_Machine_ReadBody.drop (skel_Machine_ReadBody.idxOf "call:b.recvCipher.Decrypt")).contains "assign:b.readAuthErr" = true ∧
    skel_Machine_ReadHeader.contains "call:b.recvCipher.Decrypt" = true ∧
    skel_Machine_ReadBody.contains "call:b.recvCipher.Decrypt" = true := by decide +kernel

/-- between the `io.ReadFull` of a reader and its decrypt: an assignment to the latch, behind a
    condition on the number of bytes consumed (written as its own `if n > 0` or merged into the
    error test) -/
def latchGuarded (s : List String) : Bool :=
  let seg := (s.take (s.idxOf "call:b.recvCipher.Decrypt")).drop (s.idxOf "call:io.ReadFull")
  let a := seg.idxOf "assign:b.readAuthErr"
  a < seg.length && (seg.idxOf "cond:n > 0" < a || seg.idxOf "cond:err != nil && n > 0" < a) &&
    seg.head? == some "call:io.ReadFull"

/-- **a read that fails inside a record is latched too** (repair 98daed6; the
    pause branches of the model's `readMessage`): between `io.ReadFull` and the
    decrypt, both readers set the latch when some bytes had been consumed, and
    `ReadMessage` sets it whenever the body read fails after its header was read -/
theorem partial_read_latched :
    latchGuarded skel_Machine_ReadHeader = true ∧ latchGuarded skel_Machine_ReadBody = true ∧
    (let s := skel_Machine_ReadMessage
     (s.drop (s.idxOf "call:b.ReadBody")).take 4 =
       ["call:b.ReadBody", "if", "cond:err != nil && b.readAuthErr == nil", "assign:b.readAuthErr"]) := by decide +kernel

/-- the latch lives in the Machine, not in the cipher state that a key rotation re-initialises -/
theorem rotation_does_not_touch_the_latch :
    skel_cipherState_InitializeKey = ["assign:c.secretKey", "assign:c.nonce", "assign:c.cipher", "call:chacha20poly1305.New"] := by decide +kernel

end Lnc.Inst.C02
