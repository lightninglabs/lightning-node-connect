import LncModel.Control
import LncModel.Facts.Generated
/- C06 on the control-flow facts regenerated from /repo. -/
namespace Lnc.Inst.C06
open Lnc.Facts Lnc.Gbn.Control

/-- a retransmission can be triggered from every select the send loop rests in:
    by the resend ticker and by the NACK-driven resend signal -/
theorem resend_reachable_from_every_resting_select :
    (restingSelects sel_sendPacketsForever).all (fun s =>
      s.cases.contains "recv g.resendTicker.C" && s.cases.contains "recv g.resendSignal") = true := by decide +kernel

/-- the window-full wait is left when an ACK frees a slot -/
theorem full_window_wakes_on_ack :
    (sel_sendPacketsForever.filter fun s => s.loopDepth = 2 ∧ !s.hasDefault).all
      (fun s => s.cases.contains "recv g.receivedACKSignal") = true := by decide +kernel

/-- the sync wait after a resend is bounded by a timer, as is the post-ACK grace wait -/
theorem sync_waits_bounded :
    sel_waitForSync.all (·.hasTimer) = true ∧ sel_proceedAfterTime.all (·.hasTimer) = true := by decide +kernel

/-- in the receive loop the resend ticker is reset only inside the ACK/NACK arm
    of a type switch (`resetsOnResponse` is the rule the code implements) -/
theorem resend_reset_only_on_response :
    typecases_resendReset_recvLoop = ["*PacketACK,*PacketNACK"] := by decide +kernel

theorem timeouts : gbn_minimumResendTimeout = some 1000000000 ∧ gbn_awaitingTimeoutMultiplier = some 3 := by decide +kernel

end Lnc.Inst.C06
