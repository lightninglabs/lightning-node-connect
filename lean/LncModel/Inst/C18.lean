import LncModel.Props.C18
import LncModel.Facts.Generated
/- C18 on the locking facts regenerated from /repo. -/
namespace Lnc.Inst.C18
open Lnc.Facts Lnc.Gbn.Ticker

/-- Reset, ResetWithInterval and Stop all start by taking the same mutex -/
theorem ticker_reset_and_stop_guarded :
    lock_tickerReset = "t.resetMtx.Lock" ∧ lock_tickerResetWithInterval = "t.resetMtx.Lock" ∧
    lock_tickerStop = "t.resetMtx.Lock" := by decide +kernel

/-- the code that closes and re-creates the quit channel is reached only through
    those entry points: the shared body closes and re-makes the channel, the two
    entry points call nothing else that touches it, Stop closes it -/
theorem ticker_bodies :
    calls_tickerResetBody.contains "close" = true ∧ calls_tickerResetBody.contains "make" = true ∧
    calls_tickerResetWithInterval = ["t.resetMtx.Lock", "t.resetMtx.Unlock", "t.resetWithIntervalUnsafe"] ∧
    calls_tickerReset = ["t.resetMtx.Lock", "t.resetMtx.Unlock", "t.resetWithIntervalUnsafe"] ∧
    calls_tickerStop.contains "close" = true := by decide +kernel

/-- **no lock-order deadlock**: the lock-acquisition graph of both packages is acyclic -/
theorem lock_order_acyclic : acyclic lockEdges_gbn = true ∧ acyclic lockEdges_mailbox = true := by decide +kernel

/-- the window bookkeeping is accessed under its mutexes -/
theorem queue_methods_locked :
    lock_processNACK = "q.baseMtx.Lock" ∧ lock_addPacket = "q.topMtx.Lock" ∧ lock_size = "q.baseMtx.RLock" := by decide +kernel

end Lnc.Inst.C18
