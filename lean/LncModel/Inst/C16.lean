import LncModel.Props.C16
import LncModel.Facts.Generated
/- C16 on the read modes and constants regenerated from /repo. -/
namespace Lnc.Inst.C16
open Lnc.Facts Lnc.Mailbox.Flush

/-- every fixed-size field of the handshake is read with io.ReadFull -/
theorem handshake_reads_full :
    reads_readMsgPattern.all (· == "full") = true ∧ reads_readTokens.all (· == "full") = true ∧
    reads_readMsgPattern.length = 4 ∧ reads_readTokens.length = 3 := by decide +kernel

/-- the record layer reads header and body with io.ReadFull -/
theorem record_reads_full : reads_ReadHeader = ["full"] ∧ reads_ReadBody = ["full"] := by decide +kernel

theorem framing_constants :
    mb_macSize = some macSize ∧ mb_encHeaderSize = some encHeaderSize ∧ mb_lengthHeaderSize = some 2 := by decide +kernel

/-- the handshake's field list as the code reads it (all modes `full` by the
    obligation above) parses independently of fragmentation -/
theorem handshake_frag_independent_this_tree (sizes : List Nat) (frs frs' : List Lnc.Bytes)
    (h : frs.flatten = frs'.flatten) :
    readFields (sizes.map fun k => (k, Mode.full)) frs = readFields (sizes.map fun k => (k, Mode.full)) frs' :=
  Lnc.Props.C16.readFields_frag_independent _ (by simp [Lnc.Props.C16.allFull]) frs frs' h

/-- WriteMessage refuses a new record while any part of the previous one is
    unflushed: header bytes *or* body bytes pending (the model's `write_while_pending`) -/
theorem pending_guard :
    skel_Machine_WriteMessage.contains "cond:len(b.nextHeaderSend) > 0 || len(b.nextBodySend) > 0" = true ∧
    skel_Machine_WriteMessage.idxOf "cond:len(b.nextHeaderSend) > 0 || len(b.nextBodySend) > 0" <
      skel_Machine_WriteMessage.idxOf "assign:b.nextHeaderSend" := by decide +kernel

end Lnc.Inst.C16
