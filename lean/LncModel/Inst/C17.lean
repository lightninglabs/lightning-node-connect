import LncModel.Props.C17
import LncModel.Facts.Generated
/- C17 on the constants regenerated from /repo. -/
namespace Lnc.Inst.C17
open Lnc.Facts Lnc.Mailbox.Mnemonic

theorem phrase_constants :
    mb_NumPassphraseWords = some numWords ∧ mb_NumPassphraseEntropyBytes = some numBytes := by decide +kernel

/-- ten 11-bit words fit the entropy bytes and leave fewer than 8 spare bits -/
theorem words_fit : numWords * bitsPerWord ≤ 8 * numBytes ∧ 8 * numBytes - numWords * bitsPerWord < 8 := by decide +kernel

end Lnc.Inst.C17
