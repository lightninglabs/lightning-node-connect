import LncModel.Facts.Generated
/- C01 on the control skeleton of the receive loop regenerated from /repo/gbn/gbn_conn.go. -/
namespace Lnc.Inst.C01
open Lnc.Facts

def S := skel_receivePacketsForever

/-- **the receiver's step for an expected DATA packet is the model's
    `fwdDeliver`**: acknowledge, advance `recvSeq`, and only then decide whether
    the packet is a ping (not delivered) or is handed to the application —
    in that order, for pings too; the hand-over can be interrupted by `quit`
    only -/
theorem expected_data_step :
    S.idxOf "call:g.sendPacket" < S.idxOf "assign:g.recvSeq" ∧
    S.idxOf "assign:g.recvSeq" < S.idxOf "cond:m.IsPing" ∧
    S.idxOf "cond:m.IsPing" < S.idxOf "send:g.recvDataChan" ∧
    (S.filter (· == "assign:g.recvSeq")).length = 1 ∧
    (S.filter (· == "send:g.recvDataChan")).length = 1 ∧
    ((S.drop (S.idxOf "cond:m.IsPing")).take 7) =
      ["cond:m.IsPing", "continue", "select", "case:send g.recvDataChan", "send:g.recvDataChan", "case:recv g.quit", "return"] := by decide +kernel

/-- every packet passes the decoder and the liveness bookkeeping before the type switch -/
theorem decode_first :
    S.idxOf "call:Deserialize" < S.idxOf "call:g.timeoutManager.Received" ∧
    S.idxOf "call:g.timeoutManager.Received" < S.idxOf "call:g.pingTicker.Reset" ∧
    S.idxOf "call:g.pingTicker.Reset" < S.idxOf "call:g.sendPacket" := by decide +kernel

end Lnc.Inst.C01
