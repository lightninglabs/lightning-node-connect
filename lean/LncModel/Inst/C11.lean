import LncModel.Facts.Generated
/- C11 on the control-flow facts regenerated from /repo/mailbox/server.go and client.go. -/
namespace Lnc.Inst.C11
open Lnc.Facts

/-- position of an event in a function's source-ordered event list -/
def pos (evs : List String) (e : String) : Nat := evs.idxOf e

def before (evs : List String) (a b : String) : Bool :=
  evs.contains a && evs.contains b && decide (pos evs a < pos evs b)

/-- **Accept waits for the previous connection before it hands out the next
    one** (the model's `acceptRet` is disabled while `opened`): the receive on
    `mailboxConn.Done()` is guarded by `mailboxConn != nil` only, and precedes
    every constructor of the next connection -/
theorem accept_waits_for_previous :
    before events_Accept "recv:s.mailboxConn.Done()" "call:NewServerConn" = true ∧
    before events_Accept "recv:s.mailboxConn.Done()" "call:RefreshServerConn" = true ∧
    guarded_AcceptWait = [true] := by decide +kernel

theorem dial_waits_for_previous :
    before events_Dial "recv:c.mailboxConn.Done()" "call:NewClientConn" = true ∧
    before events_Dial "recv:c.mailboxConn.Done()" "call:RefreshClientConn" = true ∧
    guarded_DialWait = [true] := by decide +kernel

/-- the rendezvous is recomputed from ConnData on every Accept / Dial, after the
    wait (so a pairing that completed on the previous connection is seen) and
    before the connection is (re)created -/
theorem sid_recomputed_each_time :
    before events_Accept "recv:s.mailboxConn.Done()" "call:s.connData.SID" = true ∧
    before events_Accept "call:s.connData.SID" "call:NewServerConn" = true ∧
    before events_Accept "call:s.connData.SID" "call:RefreshServerConn" = true ∧
    before events_Dial "recv:c.mailboxConn.Done()" "call:c.connData.SID" = true ∧
    before events_Dial "call:c.connData.SID" "call:NewClientConn" = true ∧
    before events_Dial "call:c.connData.SID" "call:RefreshClientConn" = true := by decide +kernel

/-- `Done()` is signalled by Close, once, after the GBN connection is closed -/
theorem close_signals_done :
    before events_ServerConnClose "call:c.gbnConn.Close" "call:close" = true ∧
    before events_ClientConnClose "call:c.gbnConn.Close" "call:close" = true ∧
    events_ServerConnClose.head? = some "call:c.closeOnce.Do" ∧
    events_ClientConnClose.head? = some "call:c.closeOnce.Do" := by decide +kernel

/-- **Done() is signalled on every path through Close**: whatever closing the GBN
    connection and the two streams returns, nothing leaves the function before
    `close(quit)` — errors are recorded, not returned early (otherwise the next
    Accept / Dial would wait for ever) -/
theorem close_always_signals_done :
    skel_ClientConnClose.contains "call:close" = true ∧
    (skel_ClientConnClose.take (skel_ClientConnClose.idxOf "call:close")).contains "return" = false ∧
    skel_ServerConnClose.contains "call:close" = true ∧
    (skel_ServerConnClose.take (skel_ServerConnClose.idxOf "call:close")).contains "return" = false := by decide +kernel

end Lnc.Inst.C11
