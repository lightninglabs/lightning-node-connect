import LncModel.Facts.Generated
/- C15 on the constants regenerated from /repo. -/
namespace Lnc.Inst.C15
open Lnc.Facts

theorem grpc_cap : mb_defaultGrpcWriteBufSize = some 32768 := by decide +kernel

end Lnc.Inst.C15
