import LncModel.Props.C12
import LncModel.Props.C12Sys
import LncModel.Control
import LncModel.Facts.Generated
/- C12 instantiated on the shutdown facts regenerated from /repo. -/
namespace Lnc.Inst.C12
open Lnc.Facts Lnc.Gbn.Shutdown Lnc.Gbn.Control

def selPoint (name : String) (s : SelectFact) : BlockPoint :=
  ⟨name, (if s.cases.contains "recv g.quit" then [Signal.quit] else []) ++
         (if s.cases.contains "recv c.quit" then [Signal.queueQuit] else []) ++
         (if s.hasTimer then [Signal.timer] else [])⟩

/-- a wait inside Close itself: ended by the context that carries the FIN timeout (the translator
    prints a local defined by `context.WithTimeout` / `WithDeadline` as `timeoutCtx`, whatever it
    is called in the source) -/
def closePoint (name : String) (s : SelectFact) : BlockPoint :=
  ⟨name, if s.cases.contains "recv timeoutCtx.Done()" then [Signal.timer] else []⟩

def ctxPoint (name arg : String) : BlockPoint :=
  ⟨name, if arg = "g.ctx" then [Signal.ctxCancel] else []⟩

/-- the shutdown table of this tree -/
def facts : Facts :=
  { created := created_start,
    stopped := stopped_Close,
    order := calls_Close,
    blocking :=
      (restingSelects sel_sendPacketsForever).map (selPoint "sendPacketsForever select") ++
      (restingSelects sel_receivePacketsForever).map (selPoint "receivePacketsForever select") ++
      sel_waitForSync.map (selPoint "waitForSync") ++
      (restingSelects sel_Close).map (closePoint "Close: wait for the FIN attempt") ++
      ctxarg_recvFromStream.map (ctxPoint "recvFromStream") ++
      ctxarg_sendPacket_recvLoop.map (ctxPoint "sendPacket (receive loop)") ++
      ctxarg_sendPacket_sendLoop.map (ctxPoint "sendPacket (send loop)") }

theorem stopped_list : facts.stopped = ["g.pingTicker", "g.pongTicker", "g.resendTicker"] := by decide +kernel

/-- **everything start() creates is stopped by Close** -/
theorem no_leak_this_tree : noLeak facts = true := by decide +kernel

/-- **wherever the two loop goroutines block, Close wakes them before it waits** -/
theorem close_terminates_this_tree : waitReturns facts = true := by decide +kernel

theorem close_terminates_every_config (c : Config) (hc : ∀ p ∈ c, p ∈ facts.blocking) :
    stillBlocked facts c = [] :=
  Lnc.Props.C12.close_terminates facts close_terminates_this_tree c hc

/-- **the table of this tree is `Ready`**: Close waits, it closes `quit` before it
    waits, and every blocking point of the loops is released by the signals
    raised before the wait — the hypothesis of `no_deadlock`, `move_decreases`,
    `run_bounded` and `returned_means_all_done` (Props/C12Sys.lean) -/
theorem close_system_ready : Ready facts = true := by decide +kernel

/-- hence, for this tree: under every scheduler Close cannot deadlock, and when it
    has returned both loop goroutines have returned -/
theorem close_returns_this_tree (σ σ' : CSt) (ms : List Move) (hstart : Lnc.Props.C12.Start facts σ)
    (hrun : crun facts σ ms = some σ') :
    (σ'.final facts = false → ∃ m, (cstep facts σ' m).isSome = true) ∧
    (σ'.final facts = true → σ'.allDone = true) :=
  ⟨Lnc.Props.C12.no_deadlock facts close_system_ready σ'
     (Lnc.Props.C12.wf_run facts close_system_ready ms σ σ' (Lnc.Props.C12.wf_start facts σ hstart) hrun),
   Lnc.Props.C12.returned_means_all_done facts close_system_ready σ σ' ms hstart hrun⟩

/-- Close is wrapped in sync.Once; the two loops are the only goroutines start() spawns;
    the goroutine spawned by the syncer exits on the queue's quit channel or its own timer -/
theorem structure_facts :
    calls_Close.head? = some "g.closeOnce.Do" ∧ go_start.length = 2 ∧
    go_syncerProcessACK = ["c.proceedAfterTime"] ∧
    sel_proceedAfterTime.all (fun s => s.cases.contains "recv c.quit" && s.hasTimer) = true ∧
    calls_queueStop = ["close"] := by decide +kernel

/-- callers blocked in Send / Recv are woken by quit -/
theorem callers_woken :
    (restingSelects sel_Recv).all (fun s => s.cases.contains "recv g.quit") = true ∧
    sel_Send.all (fun s => s.cases.contains "recv g.quit") = true := by decide +kernel

/-- FIN is attempted before the context is cancelled -/
theorem fin_before_cancel :
    (calls_Close.idxOf "g.sendPacket") < (calls_Close.idxOf "g.cancel") ∧
    (calls_Close.idxOf "close") < (calls_Close.idxOf "g.sendPacket") ∧
    (calls_Close.idxOf "g.cancel") < (calls_Close.idxOf "g.wg.Wait") := by decide +kernel

/-- ... and nowhere else: the goroutines `start()` spawns end in `Close` without cancelling the
    connection context themselves, so that a closure of the connection's own making (keepalive
    timeout, transport error in one direction) still attempts its FIN on a live context -/
theorem loops_leave_cancel_to_close :
    skel_start.contains "call:g.cancel" = false ∧ (skel_start.filter (· == "call:g.Close")).length = 2 := by decide +kernel

/-- **Close itself blocks only in waits that a timer ends**: the only select
    without `default` in Close's body is the wait for the FIN attempt, which
    also listens on the FIN timeout context; the FIN attempt itself runs in a
    goroutine of its own (repair 818c5cb: the send function handed to the
    connection need not return when its context expires) -/
theorem fin_wait_bounded :
    (restingSelects sel_Close).all (fun s => s.cases.contains "recv timeoutCtx.Done()" && s.cases.length == 2) = true ∧
    (restingSelects sel_Close).length = 1 ∧ go_Close.length = 1 ∧
    (calls_Close.idxOf "context.WithTimeout") < (calls_Close.idxOf "g.sendPacket") := by decide +kernel

/-- **a loop goroutine leaves the wait group before it calls Close** (Close waits
    on that group: a goroutine that called Close while still counted would wait
    for itself), in a deferred function, so on every way out of the loop -/
theorem loops_release_before_close :
    (skel_start.filter (· == "go")).length = 2 ∧
    (skel_start.filter (· == "call:g.wg.Add")).length = 2 ∧
    (skel_start.filter (· == "call:g.wg.Done")).length = 2 ∧
    ((skel_start.drop (skel_start.idxOf "go")).take 4) =
      ["go", "defer", "call:g.wg.Done", "if"] ∧
    ((skel_start.drop (skel_start.idxOf "call:g.receivePacketsForever")).dropWhile (· != "go")).take 4 =
      ["go", "defer", "call:g.wg.Done", "if"] := by decide +kernel

end Lnc.Inst.C12
