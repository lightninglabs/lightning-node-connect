import LncModel.Props.C19
import LncModel.Facts.Generated
/-
  C19 instantiated on the facts regenerated from /repo on this run.
  Each theorem here is a proof obligation re-checked by the kernel every run.
-/
namespace Lnc.Inst.C19
open Lnc Lnc.Gbn Lnc.Facts

/-- the packet type bytes in the code are the ones the model uses -/
theorem type_bytes :
    [gbn_SYN, gbn_DATA, gbn_ACK, gbn_NACK, gbn_FIN, gbn_SYNACK, gbn_TRUE, gbn_FALSE]
      = [some 1, some 2, some 3, some 4, some 5, some 6, some 1, some 0] := by decide +kernel

/-- the fixed-size packets are guarded exactly as the model reads them -/
theorem fixed_guards :
    [guard_ACK, guard_NACK, guard_SYN] = [some 2, some 2, some 2] ∧
    guard_FIN.getD 0 ≤ 1 ∧ guard_SYNACK.getD 0 ≤ 1 := by decide +kernel

/-- DATA guard is extracted and admits every serialised DATA packet (header = 4 bytes) -/
theorem data_guard_le_4 : ∃ g, guard_DATA = some g ∧ g ≤ 4 := by decide +kernel

theorem gbn_roundtrip_this_tree (m : Msg) :
    deserializeG (guard_DATA.getD 0) (serialize m) = .ok m :=
  Lnc.Props.C19.gbn_roundtrip _ (by decide) m

end Lnc.Inst.C19
