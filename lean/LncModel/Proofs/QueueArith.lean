import LncModel.Queue
import LncModel.Proofs.ModArith
/-
  What the operations of gbn/queue.go compute, stated on variables and without
  the protocol invariant; in the last part for a queue that holds a window
  `B ≤ i < T` of absolute indices, i.e. for `⟨s, B % s, T % s⟩` with `T < B + s`.
-/
namespace Lnc.Gbn
open Lnc.ModArith

theorem add8_of_lt {a b : Nat} (h : a + b < 256) : add8 a b = a + b :=
  Nat.mod_eq_of_lt h

theorem sub8_of_le {a b : Nat} (hb : b ≤ a) (ha : a < 256) : sub8 a b = a - b := by
  unfold sub8
  rw [Nat.mod_eq_of_lt (Nat.lt_of_le_of_lt hb ha), Nat.add_comm, Nat.add_sub_assoc hb,
    Nat.add_mod_left, Nat.mod_eq_of_lt (Nat.lt_of_le_of_lt (Nat.sub_le a b) ha)]

theorem mkS_of_le {n : Nat} (h : n ≤ 254) : mkS n = n + 1 :=
  add8_of_lt (Nat.succ_lt_succ (Nat.lt_succ_of_le h))

theorem modS_of_pos {s : Nat} (x : Nat) (h : 0 < s) : modS x s = .ok (x % s) :=
  if_neg (Nat.ne_of_gt h)

theorem containsSequence_true_iff (b t x : Nat) :
    containsSequence b t x = true ↔ (b < t ∧ b ≤ x ∧ x < t) ∨ (t < b ∧ (x < t ∨ b ≤ x)) := by
  unfold containsSequence
  split
  · exact ⟨Bool.noConfusion, by omega⟩
  split
  · rw [decide_eq_true_iff]
    omega
  · rw [decide_eq_true_iff]
    omega

theorem sub8_self (a : Nat) : sub8 a a = 0 := by
  unfold sub8
  omega

theorem size_self (s t : Nat) : Queue.size ⟨s, t, t⟩ = 0 :=
  (if_pos (Nat.le_refl t)).trans (sub8_self t)

theorem size_of_le {s b t : Nat} (h : b ≤ t) (ht : t < 256) : Queue.size ⟨s, b, t⟩ = t - b :=
  (if_pos h).trans (sub8_of_le h ht)

theorem size_of_lt {s b t : Nat} (h : t < b) (hb : b ≤ s) (hs : s < 256) :
    Queue.size ⟨s, b, t⟩ = t + s - b := by
  unfold Queue.size
  rw [if_neg (Nat.not_le_of_lt h), sub8_of_le hb hs, add8_of_lt (a := t) (b := s - b) (by omega),
    Nat.add_sub_assoc hb]

theorem processACK_eq (q : Queue) (seq : Nat) :
    q.processACK seq = .ok
      (if q.size ≠ 0 ∧ seq < q.s ∧ (seq = q.base ∨ containsSequence q.base q.top seq = true)
       then ({ q with base := add8 seq 1 % q.s }, true) else (q, false)) := by
  unfold Queue.processACK
  by_cases hz : q.size = 0
  · rw [if_pos hz, if_neg fun h => h.1 hz]
  by_cases hge : seq ≥ q.s
  · rw [if_neg hz, if_pos hge, if_neg fun h => Nat.not_lt_of_ge hge h.2.1]
  have hlt := Nat.lt_of_not_ge hge
  have hs := Nat.zero_lt_of_lt hlt
  rw [if_neg hz, if_neg hge, modS_of_pos _ hs, modS_of_pos _ hs]
  by_cases he : seq = q.base
  · rw [if_pos he, if_pos ⟨hz, hlt, Or.inl he⟩, he]
    rfl
  by_cases hc : containsSequence q.base q.top seq = true
  · rw [if_neg he, if_pos hc, if_pos ⟨hz, hlt, Or.inr hc⟩]
    rfl
  · rw [if_neg he, if_neg hc, if_neg fun h => h.2.2.elim he hc]

theorem processNACK_top (q : Queue) (ht : q.top < q.s) :
    q.processNACK q.top = ({ q with base := q.top }, false, true) := by
  rw [Queue.processNACK, if_neg (Nat.not_le_of_lt ht), if_pos rfl]

theorem resendSeqs_succ {s b t : Nat} (fuel : Nat) (hne : b ≠ t) (hb : b < s) (hs : s < 256) :
    resendSeqs s (fuel + 1) b t = (resendSeqs s fuel ((b + 1) % s) t).map fun l => b :: l := by
  rw [resendSeqs, if_neg hne, if_neg (Nat.not_le_of_lt hb), modS_of_pos _ (Nat.zero_lt_of_lt hb),
    add8_of_lt (Nat.lt_of_le_of_lt hb hs)]
  rfl

theorem syncerExpect_eq {s : Nat} (top : Nat) (hs : 0 < s) :
    syncerExpect s top = .ok (sub8 (add8 s top) 1 % s, top) := by
  rw [syncerExpect, modS_of_pos _ hs]
  rfl

theorem contains_window (B T x s : Nat) (h1 : B ≤ T) (h2 : T < B + s)
    (hx1 : B ≤ x) (hx2 : x < B + s) :
    containsSequence (B % s) (T % s) (x % s) = decide (x < T) := by
  have ht : T % s < s := Nat.mod_lt _ (by omega)
  have hq : x % s < s := Nat.mod_lt _ (by omega)
  have hT := mod_window B T s h1 h2
  have hx := mod_window B x s hx1 hx2
  rw [Bool.eq_iff_iff, containsSequence_true_iff, decide_eq_true_eq]
  omega

theorem size_window (s B T : Nat) (hs : s ≤ 255) (h1 : B ≤ T) (h2 : T < B + s) :
    Queue.size ⟨s, B % s, T % s⟩ = T - B := by
  have hb : B % s < s := Nat.mod_lt _ (by omega)
  have ht : T % s < s := Nat.mod_lt _ (by omega)
  rcases mod_window B T s h1 h2 with hT | hT
  · rw [size_of_le (by omega) (by omega)]
    omega
  · rw [size_of_lt (by omega) (Nat.le_of_lt hb) (by omega)]
    omega

theorem processACK_window (s B T v : Nat) (hs : s ≤ 255) (h1 : B ≤ T) (h2 : T < B + s)
    (hv1 : 1 ≤ v) (hlo : B ≤ v) (hhi : v ≤ T) :
    Queue.processACK ⟨s, B % s, T % s⟩ ((v - 1) % s) = .ok (⟨s, v % s, T % s⟩, decide (B < v)) := by
  have h0 : 0 < s := by omega
  rw [processACK_eq]
  dsimp only
  rw [size_window s B T hs h1 h2]
  rcases Nat.eq_or_lt_of_le hlo with rfl | hlt
  · -- a duplicate: it names the slot just before the base, which no window contains
    rw [decide_eq_false (Nat.lt_irrefl B), if_neg]
    rintro ⟨hne, -, hc⟩
    have hq := pred_mod B s hv1 (by omega)
    have ht := Nat.mod_lt T h0
    rw [containsSequence_true_iff] at hc
    split at hq <;> omega
  · have hc : containsSequence (B % s) (T % s) ((v - 1) % s) = true := by
      rw [contains_window B T _ s h1 h2 (by omega) (by omega)]
      exact decide_eq_true (by omega)
    have := Nat.mod_lt (v - 1) h0
    rw [if_pos ⟨by omega, this, Or.inr hc⟩, decide_eq_true hlt, add8_of_lt (by omega), Nat.mod_add_mod,
      Nat.sub_add_cancel hv1]

theorem processNACK_window (s B T v : Nat) (h1 : B ≤ T) (h2 : T < B + s) (hlo : B ≤ v) (hhi : v ≤ T) :
    (Queue.processNACK ⟨s, B % s, T % s⟩ (v % s)).1 = ⟨s, v % s, T % s⟩ := by
  have hseq : v % s < s := Nat.mod_lt _ (by omega)
  rw [Queue.processNACK, if_neg (Nat.not_le_of_lt hseq)]
  split
  · next he => rw [he]
  · next hne =>
    have hvT : v < T := Nat.lt_of_le_of_ne hhi fun he => hne (by rw [he])
    rw [contains_window B T v s h1 h2 hlo (by omega), decide_eq_true hvT]
    rfl

end Lnc.Gbn
