import LncModel.Mnemonic
/-
  Bit-list lemmas for the mnemonic codec (core Lean only): numbers and
  fixed-width bit lists are inverse to each other, cutting into chunks and
  joining chunks are inverse to each other, hence so are a fixed-width encoding
  of a list and its decoding; the byte packer is such a decoding of the
  zero-padded bit list.
-/
namespace Lnc.Mailbox.Mnemonic

theorem foldl_bits (l : List Bool) (acc : Nat) :
    l.foldl (fun acc b => 2 * acc + b.toNat) acc = acc * 2 ^ l.length + natOfBits l := by
  induction l generalizing acc with
  | nil => exact (Nat.mul_one acc).symm
  | cons b l ih =>
    rw [natOfBits, List.foldl_cons, List.foldl_cons, ih, ih (2 * 0 + b.toNat), List.length_cons, Nat.pow_succ,
      Nat.mul_zero, Nat.zero_add, Nat.add_mul, Nat.add_assoc, Nat.mul_comm 2 acc, Nat.mul_assoc,
      Nat.mul_comm 2]

theorem natOfBits_cons (b : Bool) (l : List Bool) :
    natOfBits (b :: l) = b.toNat * 2 ^ l.length + natOfBits l :=
  (foldl_bits l (2 * 0 + b.toNat)).trans (by rw [Nat.mul_zero, Nat.zero_add])

theorem natOfBits_lt (l : List Bool) : natOfBits l < 2 ^ l.length := by
  induction l with
  | nil => exact Nat.one_pos
  | cons b l ih =>
    rw [natOfBits_cons, List.length_cons, Nat.pow_succ, Nat.mul_two]
    exact Nat.add_lt_add_of_le_of_lt
      (Nat.le_trans (Nat.mul_le_mul_right _ (Bool.toNat_le b)) (Nat.le_of_eq (Nat.one_mul _))) ih

theorem length_bitsOfNat (w n : Nat) : (bitsOfNat w n).length = w := by
  induction w with
  | zero => rfl
  | succ w ih => rw [bitsOfNat, List.length_cons, ih]

theorem toNat_mod_two_beq_one (m : Nat) : (m % 2 == 1).toNat = m % 2 := by
  rcases Nat.mod_two_eq_zero_or_one m with h | h <;> rw [h] <;> rfl

theorem natOfBits_bitsOfNat (w n : Nat) : natOfBits (bitsOfNat w n) = n % 2 ^ w := by
  induction w with
  | zero => exact (Nat.mod_one n).symm
  | succ w ih =>
    rw [bitsOfNat, natOfBits_cons, length_bitsOfNat, ih, Nat.mod_pow_succ, toNat_mod_two_beq_one,
      Nat.mul_comm, Nat.add_comm]

theorem bitsOfNat_foldl (l : List Bool) (a : Nat) :
    bitsOfNat l.length (l.foldl (fun acc b => 2 * acc + b.toNat) a) = l := by
  induction l generalizing a with
  | nil => rfl
  | cons b l ih =>
    -- the fold is `(2a + b) · 2^|l| + natOfBits l`: its bit `|l|` is `b`, and the bits below are `l` by `ih`
    rw [List.length_cons, List.foldl_cons, bitsOfNat, ih, foldl_bits, Nat.mul_comm _ (2 ^ l.length),
      Nat.mul_add_div (Nat.pow_pos Nat.two_pos), Nat.div_eq_of_lt (natOfBits_lt l), Nat.add_zero,
      Nat.mul_add_mod_self_left]
    cases b <;> rfl

theorem bitsOfNat_natOfBits (bs : List Bool) : bitsOfNat bs.length (natOfBits bs) = bs :=
  bitsOfNat_foldl bs 0

theorem chunksN_flatMap {α} (f : α → List Bool) (w : Nat) (hf : ∀ x, (f x).length = w)
    {ws : List α} {k : Nat} (hk : ws.length = k) (rest : List Bool) :
    chunksN k w (ws.flatMap f ++ rest) = ws.map f := by
  subst hk
  induction ws with
  | nil => rfl
  | cons x xs ih =>
    rw [List.length_cons, chunksN, List.flatMap_cons, List.append_assoc, List.take_left' (hf x),
      List.drop_left' (hf x), ih, List.map_cons]

theorem length_chunksN (k w : Nat) (bs : List Bool) : (chunksN k w bs).length = k := by
  induction k generalizing bs with
  | zero => rfl
  | succ k ih => rw [chunksN, List.length_cons, ih]

theorem flatten_chunksN (k w : Nat) (bs : List Bool) : (chunksN k w bs).flatten = bs.take (k * w) := by
  induction k generalizing bs with
  | zero => rw [Nat.zero_mul]; rfl
  | succ k ih => rw [chunksN, List.flatten_cons, ih, Nat.succ_mul, Nat.add_comm, List.take_add]

theorem length_of_mem_chunksN {k w : Nat} {bs : List Bool} (h : k * w ≤ bs.length) :
    ∀ c ∈ chunksN k w bs, c.length = w := by
  induction k generalizing bs with
  | zero => nofun
  | succ k ih =>
    rw [Nat.succ_mul] at h
    intro c hc
    rcases List.mem_cons.mp hc with rfl | hc
    · exact List.length_take_of_le (Nat.le_trans (Nat.le_add_left _ _) h)
    · exact ih (by rw [List.length_drop]; exact Nat.le_sub_of_add_le h) c hc

theorem length_flatMap_of_width {α} (enc : α → List Bool) (w : Nat) (hw : ∀ x, (enc x).length = w) (xs : List α) :
    (xs.flatMap enc).length = xs.length * w := by
  rw [List.length_flatMap, List.map_congr_left fun x _ => hw x, List.map_const', List.sum_replicate_nat]

-- The hypothesis is in applied form: for concrete functions such as `natOfBits ∘ bitsOfNat 11` the elaborator is
-- slow to see that `(g ∘ f) x` is `g (f x)`, so a user should never have to state `h` about `g ∘ f`.
theorem map_map_cancel {α β} {f : α → β} {g : β → α} {l : List α} (h : ∀ x ∈ l, g (f x) = x) :
    (l.map f).map g = l := by
  rw [List.map_map, List.map_congr_left (f := g ∘ f) (g := id) h, List.map_id]

theorem encode_decode {α} (enc : α → List Bool) (dec : List Bool → α) (w : Nat)
    (henc : ∀ c : List Bool, c.length = w → enc (dec c) = c) (k : Nat) (bs : List Bool)
    (h : k * w ≤ bs.length) :
    ((chunksN k w bs).map dec).flatMap enc = bs.take (k * w) := by
  rw [List.flatMap_def, map_map_cancel fun c hc => henc c (length_of_mem_chunksN h c hc), flatten_chunksN]

theorem length_bitsOfBytes (b : Bytes) : (bitsOfBytes b).length = b.length * 8 :=
  length_flatMap_of_width _ 8 (fun _ => length_bitsOfNat 8 _) b

theorem take_append_replicate {α} (l : List α) (a : α) (i n : Nat) (h : i ≤ l.length + n) :
    (l ++ List.replicate n a).take i = l.take i ++ List.replicate (i - (l.take i).length) a := by
  rw [List.take_append, List.take_replicate, Nat.min_eq_left (Nat.sub_le_iff_le_add'.mpr h), List.length_take,
    ← Nat.sub_eq_sub_min]

theorem bytesOfBitsN_eq (k : Nat) (bs : List Bool) (n : Nat) (h : 8 * k ≤ (bs ++ List.replicate n false).length) :
    bytesOfBitsN k bs =
      (chunksN k 8 (bs ++ List.replicate n false)).map fun c => UInt8.ofNat (natOfBits c) := by
  induction k generalizing bs n with
  | zero => rfl
  | succ k ih =>
    have hk : 8 * k ≤ ((bs ++ List.replicate n false).drop 8).length := by
      rw [List.length_drop]; exact Nat.le_sub_of_add_le h
    rw [List.drop_append, List.drop_replicate] at hk
    rw [List.length_append, List.length_replicate] at h
    rw [bytesOfBitsN, chunksN, List.map_cons, List.drop_append, List.drop_replicate, ← ih _ _ hk,
      take_append_replicate bs false 8 n (Nat.le_trans (Nat.le_add_left 8 (8 * k)) h)]

theorem bitsOfBytes_bytesOfBitsN (k : Nat) (bs : List Bool) (h : bs.length ≤ 8 * k) :
    bitsOfBytes (bytesOfBitsN k bs) = bs ++ List.replicate (8 * k - bs.length) false := by
  have hlen : (bs ++ List.replicate (8 * k - bs.length) false).length = k * 8 := by
    rw [List.length_append, List.length_replicate, Nat.add_sub_cancel' h, Nat.mul_comm]
  rw [bytesOfBitsN_eq k bs _ (Nat.le_of_eq ((Nat.mul_comm 8 k).trans hlen.symm)), bitsOfBytes,
    encode_decode _ _ 8 ?_ k _ (Nat.le_of_eq hlen.symm), ← hlen, List.take_length]
  intro c hc
  have hlt : natOfBits c < 2 ^ 8 := hc ▸ natOfBits_lt c
  rw [UInt8.toNat_ofNat', Nat.mod_eq_of_lt hlt, ← hc, bitsOfNat_natOfBits]

end Lnc.Mailbox.Mnemonic
