/-
  Modular-window arithmetic used by the Go-Back-N proofs: inside a window of
  fewer than `s` consecutive integers, residues modulo `s` are a linear
  function of the offset (with one wrap), hence distinct.
-/
namespace Lnc.ModArith

/-- stated without subtraction, as the two linear alternatives `omega` can use directly -/
theorem mod_window (B x s : Nat) (h1 : B ≤ x) (h2 : x < B + s) :
    x % s + B = B % s + x ∨ x % s + B + s = B % s + x := by
  obtain ⟨d, rfl⟩ := Nat.le.dest h1
  have hb : B % s < s := Nat.mod_lt _ (by omega)
  rw [← Nat.mod_add_mod]
  rcases Nat.lt_or_ge (B % s + d) s with h | h
  · rw [Nat.mod_eq_of_lt h]
    omega
  · rw [Nat.mod_eq_sub_mod h, Nat.mod_eq_of_lt (by omega)]
    omega

theorem pred_mod (B s : Nat) (hB : 0 < B) (hs : 1 < s) :
    (B - 1) % s = if B % s = 0 then s - 1 else B % s - 1 := by
  obtain ⟨c, rfl⟩ := Nat.exists_eq_add_of_lt hB
  simp only [Nat.zero_add, Nat.add_sub_cancel]
  have h := mod_window c (c + 1) s (Nat.le_succ c) (by omega)
  have hlt : c % s < s := Nat.mod_lt _ (by omega)
  split <;> omega

/-- residues are injective on a window shorter than the modulus -/
theorem eq_of_mod_eq (a b s : Nat) (h : a % s = b % s) (hab : a ≤ b) (hlt : b < a + s) : a = b := by
  have hb := mod_window a b s hab hlt
  omega

end Lnc.ModArith
