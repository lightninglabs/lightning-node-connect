import LncModel.Control
/- What one step of the keepalive automaton (`KA.step`, Control.lean) does to an open or a closed state. -/
namespace Lnc.Gbn.Control.KA

theorem step_of_closed (k : KA) (hk : k.closed = true) (e : Ev) : k.step e = k := by
  cases e <;> exact if_pos hk

theorem step_closed_iff (k : KA) (hk : k.closed = false) (e : Ev) :
    (k.step e).closed = true ↔ ∃ t d, e = .service t ∧ k.pongDue = some d ∧ d ≤ t := by
  cases e with
  | pkt t => simp [KA.step, hk]
  | service t => cases hp : k.pongDue <;> simp [KA.step, hk, hp, apply_ite KA.closed]

theorem step_service_armed (k : KA) (hk : k.closed = false) (d t : Nat) (hp : k.pongDue = some d) (hd : ¬ d ≤ t) :
    (k.step (.service t)).closed = false ∧ (k.step (.service t)).pongDue = some d := by
  simp only [KA.step, hk, hp, hd, Bool.false_eq_true, if_false]
  split
  · exact ⟨rfl, rfl⟩
  · exact ⟨hk, hp⟩

theorem step_service_idle (k : KA) (hk : k.closed = false) (t : Nat) (hp : k.pongDue = none) :
    k.step (.service t) =
      if k.pingDue ≤ t then { k with pongDue := some (t + k.Q), pingDue := t + k.P } else k := by
  simp only [KA.step, hk, hp, Bool.false_eq_true, if_false]

end Lnc.Gbn.Control.KA
