import LncModel.Bi
/-
  Projection of the bidirectional system onto its two unidirectional
  instances: every physical step is one step of exactly one instance, and the
  logical channels stay the projections of the physical FIFOs.
-/
namespace Lnc.Gbn

theorem dataOf_append (l m : List Wire) : dataOf (l ++ m) = dataOf l ++ dataOf m := by
  induction l with
  | nil => rfl
  | cons x xs ih => cases x <;> simp [dataOf, ih]

theorem respOf_append (l m : List Wire) : respOf (l ++ m) = respOf l ++ respOf m := by
  induction l with
  | nil => rfl
  | cons x xs ih => cases x <;> simp [respOf, ih]

theorem dataOf_map_data (l : List DataW) : dataOf (l.map Wire.data) = l := by
  induction l with
  | nil => rfl
  | cons x xs ih => simp [dataOf, ih]

theorem respOf_map_data (l : List DataW) : respOf (l.map Wire.data) = [] := by
  induction l with
  | nil => rfl
  | cons x xs ih => simp [respOf, ih]

theorem respOf_map_resp (l : List RespW) : respOf (l.map Wire.resp) = l := by
  induction l with
  | nil => rfl
  | cons x xs ih => simp [respOf, ih]

theorem dataOf_map_resp (l : List RespW) : dataOf (l.map Wire.resp) = [] := by
  induction l with
  | nil => rfl
  | cons x xs ih => simp [dataOf, ih]

theorem drop_len_append {α} (l m : List α) : (l ++ m).drop l.length = m := by
  simp

theorem step_sendNew {σ σ' : Uni} {p : Pkt} (h : σ.step? (.sendNew p) = some σ') :
    ∃ d, σ'.fwd = σ.fwd ++ [d] ∧ σ'.bwd = σ.bwd := by
  simp only [Uni.step?] at h
  split at h
  · split at h
    · cases h; exact ⟨_, rfl, rfl⟩
    · cases h
  · cases h

theorem step_retransmit {σ σ' : Uni} {i : Nat} (h : σ.step? (.retransmit i) = some σ') :
    ∃ d, σ'.fwd = σ.fwd ++ [d] ∧ σ'.bwd = σ.bwd := by
  simp only [Uni.step?] at h
  split at h
  · cases h; exact ⟨_, rfl, rfl⟩
  · cases h

theorem step_fwdDeliver {σ σ' : Uni} {nack : Bool} (h : σ.step? (.fwdDeliver nack) = some σ') :
    ∃ d rest extra, σ.fwd = d :: rest ∧ σ'.fwd = rest ∧ σ'.bwd = σ.bwd ++ extra := by
  simp only [Uni.step?] at h
  split at h
  · cases h
  · next d rest hf =>
    split at h
    · cases h; exact ⟨d, rest, _, hf, rfl, rfl⟩
    · cases h
      refine ⟨d, rest, if nack then [⟨.nack, σ.recvSeq, σ.R⟩] else [], hf, rfl, ?_⟩
      cases nack <;> simp

theorem step_fwdDup {σ : Uni} {d : DataW} {rest : List DataW} (hf : σ.fwd = d :: rest) :
    σ.step? .fwdDup = some { σ with fwd := d :: d :: rest } := by
  simp only [Uni.step?, hf]

theorem step_fwdDrop {σ : Uni} {d : DataW} {rest : List DataW} (hf : σ.fwd = d :: rest) :
    σ.step? .fwdDrop = some { σ with fwd := rest } := by
  simp only [Uni.step?, hf]

theorem step_bwdDeliver {σ σ' : Uni} (h : σ.step? .bwdDeliver = some σ') :
    ∃ r rest, σ.bwd = r :: rest ∧ σ'.bwd = rest ∧ σ'.fwd = σ.fwd := by
  simp only [Uni.step?] at h
  split at h
  · cases h
  · next r rest hb =>
    split at h
    · split at h
      · cases h; exact ⟨r, rest, hb, rfl, rfl⟩
      · cases h
    · cases h; exact ⟨r, rest, hb, rfl, rfl⟩

theorem step_bwdDup {σ : Uni} {r : RespW} {rest : List RespW} (hb : σ.bwd = r :: rest) :
    σ.step? .bwdDup = some { σ with bwd := r :: r :: rest } := by
  simp only [Uni.step?, hb]

theorem step_bwdDrop {σ : Uni} {r : RespW} {rest : List RespW} (hb : σ.bwd = r :: rest) :
    σ.step? .bwdDrop = some { σ with bwd := rest } := by
  simp only [Uni.step?, hb]

def Bi.swap (β : Bi) : Bi := ⟨β.ba, β.ab, β.chBA, β.chAB⟩

def BiLabel.swap : BiLabel → BiLabel
  | .sendA p => .sendB p
  | .sendB p => .sendA p
  | .retransA i => .retransB i
  | .retransB i => .retransA i
  | .deliverAB b => .deliverBA b
  | .deliverBA b => .deliverAB b
  | .dupAB => .dupBA
  | .dupBA => .dupAB
  | .dropAB => .dropBA
  | .dropBA => .dropAB

theorem Bi.swap_swap (β : Bi) : β.swap.swap = β := rfl

theorem BiLabel.swap_swap (l : BiLabel) : l.swap.swap = l := by cases l <;> rfl

theorem Bi.step_swap (β : Bi) (l : BiLabel) : β.swap.step? l.swap = (β.step? l).map Bi.swap := by
  obtain ⟨ab, ba, chAB, chBA⟩ := β
  cases l with
  | sendA p | sendB p | retransA i | retransB i =>
    simp only [BiLabel.swap, Bi.swap, Bi.step?, Option.map_map]
    rfl
  | deliverAB b | dupAB | dropAB =>
    rcases chAB with _ | ⟨_ | _, r⟩ <;> simp only [BiLabel.swap, Bi.swap, Bi.step?, Option.map_map] <;> rfl
  | deliverBA b | dupBA | dropBA =>
    rcases chBA with _ | ⟨_ | _, r⟩ <;> simp only [BiLabel.swap, Bi.swap, Bi.step?, Option.map_map] <;> rfl

theorem Bi.Coupled.swap {β : Bi} (h : β.Coupled) : β.swap.Coupled :=
  ⟨h.baFwd, h.abBwd, h.abFwd, h.baBwd⟩

theorem Bi.Coupled.head_data {β : Bi} {w : DataW} {rest : List Wire} (hc : β.Coupled)
    (hch : β.chAB = .data w :: rest) : β.ab.fwd = w :: dataOf rest ∧ β.ba.bwd = respOf rest := by
  rw [hc.abFwd, hc.baBwd, hch]
  exact ⟨rfl, rfl⟩

theorem Bi.Coupled.head_resp {β : Bi} {w : RespW} {rest : List Wire} (hc : β.Coupled)
    (hch : β.chAB = .resp w :: rest) : β.ab.fwd = dataOf rest ∧ β.ba.bwd = w :: respOf rest := by
  rw [hc.abFwd, hc.baBwd, hch]
  exact ⟨rfl, rfl⟩

end Lnc.Gbn
