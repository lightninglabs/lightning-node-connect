import LncModel.Proto
import LncModel.Proofs.QueueArith
/-
  The inductive invariant of the Go-Back-N data phase (for every window size
  1 ≤ n ≤ 254, s = n+1 or any s > n, s ≤ 255), and what the queue operations
  compute on the queue of a state that satisfies it.
-/
namespace Lnc.Gbn
open Lnc.ModArith

structure DataOk (σ : Uni) (d : DataW) : Prop where
  seq_eq : d.seq = d.idx % σ.q.s
  pkt_eq : σ.log[d.idx]? = some d.pkt
  idx_lt : d.idx < d.tag
  tag_le : d.tag ≤ d.idx + σ.n
  tag_T : d.tag ≤ σ.T
  R_le : σ.R ≤ d.tag
  tag_R : d.tag ≤ σ.R + σ.n

structure RespOk (σ : Uni) (r : RespW) : Prop where
  lo : σ.B ≤ r.val
  hi : r.val ≤ σ.R
  ack_seq : r.kind = .ack → 1 ≤ r.val ∧ r.seq = (r.val - 1) % σ.q.s
  nack_seq : r.kind = .nack → r.seq = r.val % σ.q.s

structure Inv (σ : Uni) : Prop where
  n_pos : 0 < σ.n
  n_lt_s : σ.n < σ.q.s
  s_le : σ.q.s ≤ 255
  BR : σ.B ≤ σ.R
  RT : σ.R ≤ σ.T
  win : σ.T ≤ σ.B + σ.n
  base_eq : σ.q.base = σ.B % σ.q.s
  top_eq : σ.q.top = σ.T % σ.q.s
  recv_eq : σ.recvSeq = σ.R % σ.q.s
  log_len : σ.log.length = σ.T
  slots : ∀ i, i < σ.T → σ.T ≤ i + σ.q.s → σ.log[i]? = some (σ.content (i % σ.q.s))
  out_eq : σ.out = (σ.log.take σ.R).filter (fun p => !p.ping)
  fwd_ok : ∀ d ∈ σ.fwd, DataOk σ d
  fwd_sorted : σ.fwd.Pairwise (fun a b => a.tag ≤ b.tag)
  bwd_ok : ∀ r ∈ σ.bwd, RespOk σ r
  bwd_sorted : σ.bwd.Pairwise (fun a b => a.val ≤ b.val)

theorem Inv.B_le_T {σ : Uni} (h : Inv σ) : σ.B ≤ σ.T := Nat.le_trans h.BR h.RT

theorem Inv.T_lt {σ : Uni} (h : Inv σ) : σ.T < σ.B + σ.q.s :=
  Nat.lt_of_le_of_lt h.win (Nat.add_lt_add_left h.n_lt_s _)

theorem Inv.q_eq {σ : Uni} (h : Inv σ) : σ.q = ⟨σ.q.s, σ.B % σ.q.s, σ.T % σ.q.s⟩ := by
  rw [← h.base_eq, ← h.top_eq]

/-- `size()` is "first transmissions minus cumulative acknowledgements". -/
theorem size_eq {σ : Uni} (h : Inv σ) : σ.q.size = σ.T - σ.B := by
  rw [h.q_eq]
  exact size_window _ _ _ h.s_le h.B_le_T h.T_lt

theorem addPacket_eq {σ : Uni} (h : Inv σ) :
    σ.q.addPacket = .ok ({ σ.q with top := (σ.T + 1) % σ.q.s }, σ.T % σ.q.s) := by
  have h0 : 0 < σ.q.s := Nat.zero_lt_of_lt h.n_lt_s
  have ht := Nat.mod_lt σ.T h0
  have hs := h.s_le
  rw [Queue.addPacket, h.top_eq, if_neg (Nat.not_le_of_lt ht), modS_of_pos _ h0, add8_of_lt (by omega), Nat.mod_add_mod]
  rfl

/-- Processing an in-flight `ACK` whose ghost value is `v` (it acknowledges
    absolute index `v-1`) leaves the queue base at `v % s` — whether the code
    takes the "expected", the "bump" or one of the "ignore" branches. -/
theorem processACK_spec {σ : Uni} (h : Inv σ) (seq v : Nat) (hv1 : 1 ≤ v)
    (hlo : σ.B ≤ v) (hhi : v ≤ σ.R) (hseq : seq = (v - 1) % σ.q.s) :
    ∃ b, σ.q.processACK seq = .ok ({ σ.q with base := v % σ.q.s }, b) := by
  subst hseq
  rw [h.q_eq]
  exact ⟨_, processACK_window _ _ _ v h.s_le h.B_le_T h.T_lt hv1 hlo (Nat.le_trans hhi h.RT)⟩

/-- Processing an in-flight `NACK` whose ghost value is `v` (the receiver was
    expecting absolute index `v`) leaves the queue base at `v % s`. -/
theorem processNACK_spec {σ : Uni} (h : Inv σ) (seq v : Nat)
    (hlo : σ.B ≤ v) (hhi : v ≤ σ.R) (hseq : seq = v % σ.q.s) :
    (σ.q.processNACK seq).1 = { σ.q with base := v % σ.q.s } := by
  subst hseq
  rw [h.q_eq]
  exact processNACK_window _ _ _ v h.B_le_T h.T_lt hlo (Nat.le_trans hhi h.RT)

/-- The receiver's test `m.Seq == g.recvSeq` accepts exactly the next packet. -/
theorem accept_iff {σ : Uni} (h : Inv σ) (d : DataW) (hd : DataOk σ d) :
    d.seq = σ.recvSeq ↔ d.idx = σ.R := by
  have hn := h.n_lt_s
  have h1 := hd.idx_lt; have h2 := hd.tag_le; have h3 := hd.R_le; have h4 := hd.tag_R
  rw [hd.seq_eq, h.recv_eq]
  refine ⟨fun he => ?_, congrArg (· % σ.q.s)⟩
  rcases Nat.le_total d.idx σ.R with hle | hle
  · exact eq_of_mod_eq _ _ _ he hle (by omega)
  · exact (eq_of_mod_eq _ _ _ he.symm hle (by omega)).symm

end Lnc.Gbn
