import LncModel.Proofs.ProtoInv
/-
  Every transition preserves `Inv`.
-/
namespace Lnc.Gbn
open Lnc.ModArith

theorem inv_init (n : Nat) (hn : 0 < n) (hn254 : n ≤ 254) : Inv (Uni.init n) := by
  have hs : mkS n = n + 1 := mkS_of_le hn254
  refine { n_pos := hn, n_lt_s := ?_, s_le := ?_, BR := Nat.le_refl _, RT := Nat.le_refl _,
           win := ?_, base_eq := ?_, top_eq := ?_, recv_eq := ?_, log_len := rfl, slots := ?_,
           out_eq := rfl, fwd_ok := ?_, fwd_sorted := List.Pairwise.nil, bwd_ok := ?_,
           bwd_sorted := List.Pairwise.nil }
  all_goals simp [Uni.init, hs]
  · omega

theorem forall_mem_snoc {α} {p : α → Prop} {l : List α} {a : α} (hl : ∀ x ∈ l, p x) (ha : p a) :
    ∀ x ∈ l ++ [a], p x :=
  List.forall_mem_append.mpr ⟨hl, List.forall_mem_singleton.mpr ha⟩

theorem pairwise_snoc {α} {R : α → α → Prop} {l : List α} {a : α} (hl : l.Pairwise R)
    (ha : ∀ x ∈ l, R x a) : (l ++ [a]).Pairwise R :=
  List.pairwise_append.mpr
    ⟨hl, List.pairwise_singleton _ _, fun x hx => List.forall_mem_singleton.mpr (ha x hx)⟩

theorem pairwise_dup {α} {R : α → α → Prop} {a : α} {l : List α} (hr : R a a)
    (h : (a :: l).Pairwise R) : (a :: a :: l).Pairwise R :=
  .cons (List.forall_mem_cons.mpr ⟨hr, fun _ => List.rel_of_pairwise_cons h⟩) h

theorem Inv.channels {σ : Uni} (h : Inv σ) {f : List DataW} {b : List RespW}
    (hf : ∀ d ∈ f, DataOk σ d) (hfs : f.Pairwise (fun a b => a.tag ≤ b.tag))
    (hb : ∀ r ∈ b, RespOk σ r) (hbs : b.Pairwise (fun a b => a.val ≤ b.val)) :
    Inv { σ with fwd := f, bwd := b } :=
  { h with
    fwd_ok := fun d hd => { hf d hd with }
    fwd_sorted := hfs
    bwd_ok := fun r hr => { hb r hr with }
    bwd_sorted := hbs }

theorem inv_sendNew {σ : Uni} (h : Inv σ) (p : Pkt) (hg : σ.q.size < σ.n) :
    Inv { σ with q := { σ.q with top := (σ.T + 1) % σ.q.s },
                 content := fun k => if k = σ.T % σ.q.s then p else σ.content k,
                 fwd := σ.fwd ++ [⟨σ.T % σ.q.s, p, σ.T, σ.T + 1⟩],
                 T := σ.T + 1, log := σ.log ++ [p] } := by
  rw [size_eq h] at hg
  have hwin : σ.T < σ.B + σ.n := by omega
  have hlen := h.log_len
  have hlast : (σ.log ++ [p])[σ.T]? = some p := hlen ▸ List.getElem?_concat_length
  have hold : ∀ i, i < σ.T → (σ.log ++ [p])[i]? = σ.log[i]? := fun i hi =>
    List.getElem?_append_left (hlen ▸ hi)
  exact { h with
    RT := Nat.le_succ_of_le h.RT
    win := hwin
    top_eq := rfl
    log_len := List.length_append.trans (congrArg (· + 1) hlen)
    slots := fun i (hi1 : i < σ.T + 1) (hi2 : σ.T + 1 ≤ i + σ.q.s) => by
      show (σ.log ++ [p])[i]? = some (if i % σ.q.s = σ.T % σ.q.s then p else σ.content (i % σ.q.s))
      rcases Nat.eq_or_lt_of_le (Nat.le_of_lt_succ hi1) with rfl | hlt
      · rw [if_pos rfl, hlast]
      · -- an older slot is not overwritten: residues are distinct inside the window
        rw [if_neg fun he => Nat.ne_of_lt hlt (eq_of_mod_eq i σ.T σ.q.s he (Nat.le_of_lt hlt) hi2),
          hold i hlt]
        exact h.slots i hlt (Nat.le_of_succ_le hi2)
    out_eq := by
      rw [List.take_append_of_le_length (hlen ▸ h.RT)]
      exact h.out_eq
    fwd_ok := forall_mem_snoc
      (fun d hd =>
        have o := h.fwd_ok d hd
        { o with
          pkt_eq := (hold d.idx (Nat.lt_of_lt_of_le o.idx_lt o.tag_T)).trans o.pkt_eq
          tag_T := Nat.le_succ_of_le o.tag_T })
      { seq_eq := rfl, pkt_eq := hlast, idx_lt := Nat.lt_succ_self _,
        tag_le := Nat.add_le_add_left h.n_pos _, tag_T := Nat.le_refl _,
        R_le := Nat.le_succ_of_le h.RT, tag_R := Nat.le_trans hwin (Nat.add_le_add_right h.BR _) }
    fwd_sorted := pairwise_snoc h.fwd_sorted fun a ha => Nat.le_succ_of_le (h.fwd_ok a ha).tag_T
    bwd_ok := fun r hr => { h.bwd_ok r hr with } }

theorem inv_retransmit {σ : Uni} (h : Inv σ) (i : Nat) (hi1 : i < σ.T) (hi2 : σ.T ≤ i + σ.n) :
    Inv { σ with fwd := σ.fwd ++ [⟨i % σ.q.s, σ.content (i % σ.q.s), i, σ.T⟩] } :=
  have hn := h.n_lt_s
  h.channels
    (forall_mem_snoc h.fwd_ok
      { seq_eq := rfl, pkt_eq := h.slots i hi1 (by omega), idx_lt := hi1, tag_le := hi2,
        tag_T := Nat.le_refl _, R_le := h.RT, tag_R := Nat.le_trans h.win (Nat.add_le_add_right h.BR _) })
    (pairwise_snoc h.fwd_sorted fun a ha => (h.fwd_ok a ha).tag_T)
    h.bwd_ok h.bwd_sorted

theorem inv_accept {σ : Uni} (h : Inv σ) (d : DataW) (rest : List DataW)
    (hf : σ.fwd = d :: rest) (hacc : d.seq = σ.recvSeq) :
    Inv { σ with fwd := rest,
                 bwd := σ.bwd ++ [⟨.ack, d.seq, σ.R + 1⟩],
                 recvSeq := (add8 σ.recvSeq 1) % σ.q.s,
                 R := σ.R + 1,
                 out := if d.pkt.ping then σ.out else σ.out ++ [d.pkt] } := by
  have hs := h.s_le
  obtain ⟨hdo, hrest⟩ := List.forall_mem_cons.mp (hf ▸ h.fwd_ok)
  obtain ⟨hhead, hsorted⟩ := List.pairwise_cons.mp (hf ▸ h.fwd_sorted)
  have hidx : d.idx = σ.R := (accept_iff h d hdo).mp hacc
  have hlt : σ.R < d.tag := hidx ▸ hdo.idx_lt
  exact { h with
    BR := Nat.le_succ_of_le h.BR
    RT := Nat.le_trans hlt hdo.tag_T
    recv_eq := by
      have := Nat.mod_lt σ.R (Nat.zero_lt_of_lt h.n_lt_s)
      rw [h.recv_eq, add8_of_lt (by omega), Nat.mod_add_mod]
    out_eq := by
      show (if d.pkt.ping then σ.out else σ.out ++ [d.pkt]) = (σ.log.take (σ.R + 1)).filter _
      rw [List.take_add_one, List.filter_append, ← h.out_eq, ← hidx, hdo.pkt_eq]
      cases hp : d.pkt.ping <;> simp [hp]
    fwd_ok := fun d' hd' =>
      -- later copies were emitted no earlier than `d`, hence after index `R` was first sent
      have o := hrest d' hd'
      { o with
        R_le := Nat.le_trans hlt (hhead d' hd')
        tag_R := Nat.le_trans o.tag_R (Nat.add_le_add_right (Nat.le_succ _) _) }
    fwd_sorted := hsorted
    bwd_ok := forall_mem_snoc
      (fun r hr => have o := h.bwd_ok r hr; { o with hi := Nat.le_succ_of_le o.hi })
      { lo := Nat.le_succ_of_le h.BR, hi := Nat.le_refl _,
        ack_seq := fun _ => ⟨Nat.succ_pos _, by rw [hdo.seq_eq, hidx]; rfl⟩,
        nack_seq := fun hk => RKind.noConfusion hk }
    bwd_sorted := pairwise_snoc h.bwd_sorted fun a ha => Nat.le_succ_of_le (h.bwd_ok a ha).hi }

theorem inv_reject {σ : Uni} (h : Inv σ) (d : DataW) (rest : List DataW)
    (hf : σ.fwd = d :: rest) (nack : Bool) :
    Inv { σ with fwd := rest,
                 bwd := if nack then σ.bwd ++ [⟨.nack, σ.recvSeq, σ.R⟩] else σ.bwd } := by
  have hrest := (List.forall_mem_cons.mp (hf ▸ h.fwd_ok)).2
  have hsorted := (hf ▸ h.fwd_sorted).of_cons
  cases nack
  · exact h.channels hrest hsorted h.bwd_ok h.bwd_sorted
  · exact h.channels hrest hsorted
      (forall_mem_snoc h.bwd_ok
        { lo := h.BR, hi := Nat.le_refl _, ack_seq := fun hk => RKind.noConfusion hk,
          nack_seq := fun _ => h.recv_eq })
      (pairwise_snoc h.bwd_sorted fun a ha => (h.bwd_ok a ha).hi)

/-- The sender takes an in-flight response whose ghost value is `v` into
    account: its base becomes `v % s`, the ghost base `v`. -/
theorem inv_resp {σ : Uni} (h : Inv σ) (r : RespW) (rest : List RespW)
    (hb : σ.bwd = r :: rest) :
    Inv { σ with q := { σ.q with base := r.val % σ.q.s }, bwd := rest, B := r.val } := by
  obtain ⟨hro, hrest⟩ := List.forall_mem_cons.mp (hb ▸ h.bwd_ok)
  obtain ⟨hhead, hsorted⟩ := List.pairwise_cons.mp (hb ▸ h.bwd_sorted)
  exact { h with
    BR := hro.hi
    win := Nat.le_trans h.win (Nat.add_le_add_right hro.lo _)
    base_eq := rfl
    fwd_ok := fun d hd => { h.fwd_ok d hd with }
    bwd_ok := fun r' hr' => { hrest r' hr' with lo := hhead r' hr' }
    bwd_sorted := hsorted }

/-- **Every transition preserves the invariant.** -/
theorem inv_step {σ σ' : Uni} (h : Inv σ) (l : Label) (hs : σ.step? l = some σ') : Inv σ' := by
  cases l with
  | sendNew p =>
    simp only [Uni.step?] at hs
    split at hs
    · next hg =>
      rw [addPacket_eq h] at hs
      cases hs
      exact inv_sendNew h p hg
    · cases hs
  | retransmit i =>
    simp only [Uni.step?] at hs
    split at hs
    · next hg =>
      cases hs
      exact inv_retransmit h i hg.1 hg.2
    · cases hs
  | fwdDeliver nack =>
    simp only [Uni.step?] at hs
    split at hs
    · cases hs
    · next d rest hf =>
      split at hs
      · next hacc =>
        cases hs
        exact inv_accept h d rest hf hacc
      · cases hs
        exact inv_reject h d rest hf nack
  | fwdDup =>
    simp only [Uni.step?] at hs
    split at hs
    · cases hs
    · next d rest hf =>
      cases hs
      have hok := hf ▸ h.fwd_ok
      exact h.channels (List.forall_mem_cons.mpr ⟨(List.forall_mem_cons.mp hok).1, hok⟩)
        (pairwise_dup (Nat.le_refl _) (hf ▸ h.fwd_sorted)) h.bwd_ok h.bwd_sorted
  | fwdDrop =>
    simp only [Uni.step?] at hs
    split at hs
    · cases hs
    · next d rest hf =>
      cases hs
      exact h.channels (List.forall_mem_cons.mp (hf ▸ h.fwd_ok)).2
        (hf ▸ h.fwd_sorted).of_cons h.bwd_ok h.bwd_sorted
  | bwdDeliver =>
    simp only [Uni.step?] at hs
    split at hs
    · cases hs
    · next r rest hb =>
      have hro : RespOk σ r := h.bwd_ok r (hb ▸ List.mem_cons_self)
      split at hs
      · next hk =>
        obtain ⟨hv1, hseq⟩ := hro.ack_seq hk
        obtain ⟨b, hb'⟩ := processACK_spec h r.seq r.val hv1 hro.lo hro.hi hseq
        rw [hb'] at hs
        cases hs
        exact inv_resp h r rest hb
      · next hk =>
        rw [processNACK_spec h r.seq r.val hro.lo hro.hi (hro.nack_seq hk)] at hs
        cases hs
        exact inv_resp h r rest hb
  | bwdDup =>
    simp only [Uni.step?] at hs
    split at hs
    · cases hs
    · next r rest hb =>
      cases hs
      have hok := hb ▸ h.bwd_ok
      exact h.channels h.fwd_ok h.fwd_sorted
        (List.forall_mem_cons.mpr ⟨(List.forall_mem_cons.mp hok).1, hok⟩)
        (pairwise_dup (Nat.le_refl _) (hb ▸ h.bwd_sorted))
  | bwdDrop =>
    simp only [Uni.step?] at hs
    split at hs
    · cases hs
    · next r rest hb =>
      cases hs
      exact h.channels h.fwd_ok h.fwd_sorted (List.forall_mem_cons.mp (hb ▸ h.bwd_ok)).2
        (hb ▸ h.bwd_sorted).of_cons

theorem runQ_append (σ : Uni) (ls ms : List Label) :
    σ.run? (ls ++ ms) = (σ.run? ls).bind fun σ' => σ'.run? ms := by
  induction ls generalizing σ with
  | nil => rfl
  | cons l ls ih =>
    simp only [List.cons_append, Uni.run?]
    cases σ.step? l with
    | none => rfl
    | some σ' => exact ih σ'

theorem Uni.run_cons {σ σ1 : Uni} {l : Label} (hs : σ.step? l = some σ1) (ls : List Label) :
    σ.run? (l :: ls) = σ1.run? ls := by
  simp only [Uni.run?, hs]

theorem Uni.run_append {σ σ1 : Uni} {ls : List Label} (hr : σ.run? ls = some σ1) (ms : List Label) :
    σ.run? (ls ++ ms) = σ1.run? ms := by
  rw [runQ_append, hr]
  rfl

theorem Reachable.step {n : Nat} {σ σ' : Uni} {l : Label} (hr : Reachable n σ) (h : σ.step? l = some σ') :
    Reachable n σ' :=
  let ⟨ls, hls⟩ := hr
  ⟨ls ++ [l], (Uni.run_append hls _).trans (Uni.run_cons h [])⟩

theorem inv_run {σ σ' : Uni} (h : Inv σ) (ls : List Label) (hr : σ.run? ls = some σ') : Inv σ' := by
  induction ls generalizing σ with
  | nil => cases hr; exact h
  | cons l ls ih =>
    simp only [Uni.run?] at hr
    split at hr
    · next σ1 h1 => exact ih (inv_step h l h1) hr
    · cases hr

theorem inv_reachable {n : Nat} (hn : 0 < n) (hn254 : n ≤ 254) {σ : Uni} (hr : Reachable n σ) : Inv σ := by
  obtain ⟨ls, hls⟩ := hr
  exact inv_run (inv_init n hn hn254) ls hls

end Lnc.Gbn
