import LncModel.Noise
import LncModel.Proofs.Logic
/-
  What success of each stage of the handshake interpreter of Noise.lean means,
  stated once: `do` blocks in `M = Except String` are taken apart with
  `bind_eq_ok` (and `Except.ok.inj` for `pure`), and the lemmas `*_ok` say what a
  successful `dhToken`, `writeMsg`, `readMsg` did to the state and the wire.
-/
namespace Lnc.Mailbox.Noise

theorem bind_eq_ok {α β} {x : M α} {f : α → M β} {b : β} (h : x >>= f = .ok b) :
    ∃ a, x = .ok a ∧ f a = .ok b := by
  cases x with
  | error e => cases h
  | ok a => exact ⟨a, rfl, h⟩

variable {st st' w w' r r' : St} {mp : MsgPattern} {fields : List Field}

theorem decryptAndHash_ok {x : WCt} {pl : Pl} (h : decryptAndHash st x = .ok (st', pl)) :
    ∃ c, x = .hon c ∧ c.key = st.key ∧ c.nonce = st.n ∧ c.ad = st.h ∧ c.pl = pl ∧
      st' = { st with n := st.n + 1, h := st.h ++ [.ct c.id] } := by
  cases x with
  | garbage n => cases h
  | hon c =>
    rcases ite_eq_cases h with ⟨⟨hkey, hn, had⟩, h⟩ | ⟨_, h⟩
    · cases h
      exact ⟨c, rfl, hkey, hn, had, rfl, rfl⟩
    · cases h

theorem dhToken_ok {t : Token} (h : dhToken st t = .ok st') : ∃ s, st' = mixKey st s := by
  have one {o : Option Pt} {e : String} {k : Nat}
      (h : (need o e >>= fun p => pure (mixKey st (ecdh p k))) = .ok st') : ∃ s, st' = mixKey st s := by
    obtain ⟨p, _, h⟩ := bind_eq_ok h
    exact ⟨_, (Except.ok.inj h).symm⟩
  cases t with
  | e | me | s => cases h
  | ee | ss => exact one h
  | es | se =>
    rcases ite_eq_cases h with ⟨_, h⟩ | ⟨_, h⟩
    · exact one h
    · exact one h

theorem writeMsg_ok (h : writeMsg w mp = .ok (w', fields)) :
    ∃ st out, writeTokens mp.tokens w [.ver w.version] = .ok (st, out) ∧ ∃ pre pl,
      w' = (encryptAndHash pre pl).1 ∧
      ((pre = st ∧ fields = out ++ [.ct (encryptAndHash st pl).2] ∧ (mp.act ≠ 2 → pl = .empty)) ∨
       -- act 2 of versions 1 and 2: a length header `pl1`, then the body `pl`
       (∃ pl1, mp.act = 2 ∧ pre = (encryptAndHash st pl1).1 ∧
          fields = out ++ [.ct (encryptAndHash st pl1).2, .ct (encryptAndHash pre pl).2])) := by
  unfold writeMsg at h
  obtain ⟨⟨st, out⟩, ht, h⟩ := bind_eq_ok h
  refine ⟨st, out, ht, ?_⟩
  rcases ite_eq_cases h with ⟨_, h⟩ | ⟨_, h⟩
  · obtain ⟨pl, hpl, h⟩ := bind_eq_ok h
    cases h
    refine ⟨st, pl, rfl, .inl ⟨rfl, rfl, fun hact => ?_⟩⟩
    rw [if_neg hact] at hpl
    exact (Except.ok.inj hpl).symm
  · rcases ite_eq_cases h with ⟨_, h⟩ | ⟨_, h⟩
    · rcases ite_eq_cases h with ⟨hact, h⟩ | ⟨_, h⟩
      · cases h
        exact ⟨_, _, rfl, .inr ⟨_, hact, rfl, rfl⟩⟩
      · cases h
        exact ⟨st, .empty, rfl, .inl ⟨rfl, rfl, fun _ => rfl⟩⟩
    · cases h

theorem writeMsg_single (hact : mp.act ≠ 2) (h : writeMsg w mp = .ok (w', fields)) :
    ∃ st out, writeTokens mp.tokens w [.ver w.version] = .ok (st, out) ∧
      w' = (encryptAndHash st .empty).1 ∧ fields = out ++ [.ct (encryptAndHash st .empty).2] := by
  obtain ⟨st, out, ht, pre, pl, rfl, hf⟩ := writeMsg_ok h
  rcases hf with ⟨rfl, rfl, hpl⟩ | ⟨_, h2, _⟩
  · cases hpl hact
    exact ⟨pre, out, ht, rfl, rfl⟩
  · exact absurd h2 hact

theorem readMsg_ok {inp : List Field} (h : readMsg r mp inp = .ok r') :
    ∃ v rest ver st pay, inp = .ver v :: rest ∧
      -- the check of the version byte `v` at most sets the initiator's `version`
      readTokens mp.tokens { r with version := ver } rest = .ok (st, pay) ∧
      ∃ sta x st' pl, decryptAndHash sta x = .ok (st', pl) ∧ (∃ rcv, r' = { st' with received := rcv }) ∧
        ((sta = st ∧ pay = [.ct x]) ∨
         (∃ x1 pl1, mp.act = 2 ∧ decryptAndHash st x1 = .ok (sta, pl1) ∧ pay = [.ct x1, .ct x])) := by
  unfold readMsg at h
  split at h
  case h_2 => cases h
  next v rest =>
  obtain ⟨st0, h0, ht⟩ := bind_eq_ok h
  obtain ⟨⟨st, pay⟩, ht, hp⟩ := bind_eq_ok ht
  obtain ⟨ver, rfl⟩ : ∃ ver, st0 = { r with version := ver } := by
    rcases ite_eq_cases h0 with ⟨_, h0⟩ | ⟨_, h0⟩
    · rcases ite_eq_cases h0 with ⟨_, h0⟩ | ⟨_, h0⟩
      · cases h0
      · rcases ite_eq_cases (Except.ok.inj h0) with ⟨_, rfl⟩ | ⟨_, rfl⟩
        · exact ⟨v, rfl⟩
        · exact ⟨r.version, rfl⟩
    · rcases ite_eq_cases h0 with ⟨_, h0⟩ | ⟨_, h0⟩
      · cases h0
      · exact ⟨r.version, (Except.ok.inj h0).symm⟩
  refine ⟨v, rest, ver, st, pay, rfl, ht, ?_⟩
  clear h
  rcases ite_eq_cases hp with ⟨_, h⟩ | ⟨_, h⟩
  · split at h
    · obtain ⟨⟨st', pl⟩, hd, h⟩ := bind_eq_ok h
      refine ⟨st, _, st', pl, hd, ?_, .inl ⟨rfl, rfl⟩⟩
      -- whichever plaintext was opened, `h` either is an impossible equation or names `r'`
      rcases pl with _ | _ | _ | _ | ⟨_ | _, _⟩ <;> cases h <;> exact ⟨_, rfl⟩
    · cases h
  · rcases ite_eq_cases h with ⟨_, h⟩ | ⟨_, h⟩
    · rcases ite_eq_cases h with ⟨hact, h⟩ | ⟨_, h⟩
      · split at h
        · obtain ⟨⟨st1, pl1⟩, hd1, h⟩ := bind_eq_ok h
          cases pl1 with
          | len n =>
            obtain ⟨⟨st2, pl2⟩, hd2, h⟩ := bind_eq_ok h
            refine ⟨st1, _, st2, pl2, hd2, ?_, .inr ⟨_, _, hact, hd1, rfl⟩⟩
            cases pl2 <;> cases h <;> exact ⟨_, rfl⟩
          | empty | static | bytes | fixed500 => cases h
        · cases h
      · split at h
        · obtain ⟨⟨st', pl⟩, hd, h⟩ := bind_eq_ok h
          refine ⟨st, _, st', pl, hd, ?_, .inl ⟨rfl, rfl⟩⟩
          cases pl <;> cases h <;> exact ⟨_, rfl⟩
        · cases h
    · cases h

theorem readMsg_rejects {v : Nat} {rest : List Field} (hact : mp.act ≠ 2)
    (hbad : ∀ ver st c, readTokens mp.tokens { r with version := ver } rest = .ok (st, [.ct (.hon c)]) →
      c.ad ≠ st.h) :
    ∃ e, readMsg r mp (.ver v :: rest) = .error e := by
  cases h : readMsg r mp (.ver v :: rest) with
  | error e => exact ⟨e, rfl⟩
  | ok r' =>
    obtain ⟨_, _, ver, st, pay, hinp, ht, sta, x, st', pl, hd, _, hpay⟩ := readMsg_ok h
    cases hinp
    rcases hpay with ⟨rfl, rfl⟩ | ⟨_, _, h2, _⟩
    · obtain ⟨c, rfl, _, _, had, _⟩ := decryptAndHash_ok hd
      exact absurd had (hbad ver sta c ht)
    · exact absurd h2 hact

end Lnc.Mailbox.Noise
