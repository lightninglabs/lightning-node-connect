/- Logic used by proof modules of unrelated models. -/
namespace Lnc

/- Takes an `if` apart where `split at h` would have to unfold first, and is cheaper to check. -/
theorem ite_eq_cases {α} {c : Prop} [Decidable c] {x y b : α} (h : (if c then x else y) = b) :
    c ∧ x = b ∨ ¬c ∧ y = b := by
  by_cases hc : c
  · exact .inl ⟨hc, by rwa [if_pos hc] at h⟩
  · exact .inr ⟨hc, by rwa [if_neg hc] at h⟩

end Lnc
