import LncModel.CloseSys
/-
  C12 — Close as a concurrent system (CloseSys.lean): under EVERY scheduler

    * Close never waits for anything before `wg.Wait()`              (closer_free_before_wait)
    * the system cannot deadlock before Close has returned            (no_deadlock)
    * once Close has reached `wg.Wait()`, every move — of Close or of a loop
      goroutine — strictly decreases (calls left) + (goroutines left): the
      rest of the run is at most that long                            (move_decreases, run_bounded)
    * when Close has returned, both loops have returned               (returned_means_all_done)

  for every table that satisfies `Ready`; `Ready` of the table regenerated from
  /repo is an obligation in Inst/C12.lean.
-/
namespace Lnc.Props.C12
open Lnc.Gbn.Shutdown

theorem cstep_closer (f : Facts) (σ σ' : CSt) : cstep f σ .closer = some σ' ↔
    ∃ c, f.order[σ.pc]? = some c ∧ (c = "g.wg.Wait" → σ.allDone = true) ∧
      { σ with pc := σ.pc + 1 } = σ' := by
  cases hc : f.order[σ.pc]? with
  | none => simp only [cstep, hc, reduceCtorEq, false_and, exists_false]
  | some c =>
    simp only [cstep, hc, Option.some.injEq, exists_eq_left']
    by_cases hw : c = "g.wg.Wait"
    · simp only [if_pos hw, Option.ite_none_right_eq_some, Option.some.injEq, forall_prop_of_true hw]
    · simp only [if_neg hw, Option.some.injEq, forall_prop_of_false hw, true_and]

theorem cstep_wake (f : Facts) (σ σ' : CSt) (i : Nat) (next : BlockPoint) :
    cstep f σ (.wake i next) = some σ' ↔
    ∃ p, σ.gs[i]? = some (some p) ∧ released (σ.raised f) p = true ∧ ∃ g,
      (if (σ.raised f).contains .quit = true then g = none
        else g = some next ∧ f.blocking.contains next = true) ∧
      { σ with gs := σ.gs.set i g } = σ' := by
  rcases hg : σ.gs[i]? with _ | _ | p
  · simp only [cstep, hg, reduceCtorEq, false_and, exists_false]
  · simp only [cstep, hg, Option.some.injEq, reduceCtorEq, false_and, exists_false]
  · simp only [cstep, hg, Option.some.injEq, exists_eq_left', Option.ite_none_right_eq_some]
    refine and_congr_right fun _ => ?_
    by_cases hq : (σ.raised f).contains .quit = true
    · simp only [if_pos hq, Option.some.injEq, exists_eq_left]
    · simp only [if_neg hq, Option.ite_none_right_eq_some, Option.some.injEq, and_assoc, exists_eq_left]

theorem crun_cons (f : Facts) (σ σ' : CSt) (m : Move) (ms : List Move) :
    crun f σ (m :: ms) = some σ' ↔ ∃ σ1, cstep f σ m = some σ1 ∧ crun f σ1 ms = some σ' := by
  cases h : cstep f σ m with
  | none => simp only [crun, h, reduceCtorEq, false_and, exists_false]
  | some σ1 => simp only [crun, h, Option.some.injEq, exists_eq_left']

/-! ### raised signals only grow -/

theorem raisedOf_take_mono (order : List String) (a b : Nat) (h : a ≤ b) (s : Signal)
    (hs : (raisedOf (order.take a)).contains s = true) : (raisedOf (order.take b)).contains s = true := by
  simp only [raisedOf, List.contains_iff_mem, List.mem_filterMap] at *
  obtain ⟨c, hc, hcs⟩ := hs
  exact ⟨c, List.take_subset_take_left order h hc, hcs⟩

theorem released_mono (r r' : List Signal) (p : BlockPoint)
    (h : ∀ s, r.contains s = true → r'.contains s = true) (hp : released r p = true) : released r' p = true := by
  simp only [released, List.any_eq_true, Bool.or_eq_true] at *
  obtain ⟨s, hs, hor⟩ := hp
  exact ⟨s, hs, hor.imp_right (h s)⟩

/-! ### well-formed states -/

structure WF (f : Facts) (σ : CSt) : Prop where
  points : ∀ p, some p ∈ σ.gs → p ∈ f.blocking
  pc_le : σ.pc ≤ f.order.length
  after_wait : waitIdx f < σ.pc → σ.allDone = true

theorem allDone_get (σ : CSt) (h : σ.allDone = true) (i : Nat) (p : BlockPoint) : σ.gs[i]? ≠ some (some p) :=
  fun hg => nomatch beq_iff_eq.mp (List.all_eq_true.mp h _ (List.mem_of_getElem? hg))

theorem idxOf_getElem_le (l : List String) (i : Nat) (h : i < l.length) : l.idxOf l[i] ≤ i :=
  Nat.le_of_not_lt fun hlt =>
    Bool.false_ne_true ((List.not_of_lt_findIdx hlt).symm.trans (beq_self_eq_true _))

theorem order_at_waitIdx (f : Facts) (h : f.order.contains "g.wg.Wait" = true) :
    f.order[waitIdx f]? = some "g.wg.Wait" := by
  have hlt : waitIdx f < f.order.length := List.idxOf_lt_length_of_mem (List.contains_iff_mem.mp h)
  rw [List.getElem?_eq_getElem hlt]
  exact congrArg some (List.getElem_idxOf hlt)

theorem before_waitIdx (f : Facts) (i : Nat) (hi : i < waitIdx f) : ∃ c, f.order[i]? = some c ∧ c ≠ "g.wg.Wait" :=
  have hlt : i < f.order.length := Nat.lt_of_lt_of_le hi List.idxOf_le_length
  ⟨f.order[i], List.getElem?_eq_getElem hlt, ne_of_beq_false (List.not_of_lt_findIdx hi)⟩

theorem waitIdx_le (f : Facts) (i : Nat) (h : f.order[i]? = some "g.wg.Wait") : waitIdx f ≤ i := by
  obtain ⟨hi, he⟩ := List.getElem?_eq_some_iff.mp h
  rw [waitIdx, ← he]
  exact idxOf_getElem_le f.order i hi

/-- **Close never waits for anything before `wg.Wait()`**: its next call is always enabled -/
theorem closer_free_before_wait (f : Facts) (σ : CSt) (h : σ.pc < waitIdx f) :
    (cstep f σ .closer).isSome = true := by
  obtain ⟨c, hc, hne⟩ := before_waitIdx f σ.pc h
  exact Option.isSome_of_eq_some ((cstep_closer f σ _).mpr ⟨c, hc, fun hw => absurd hw hne, rfl⟩)

theorem ready_at_wait (f : Facts) (hr : Ready f = true) (σ : CSt) (hge : waitIdx f ≤ σ.pc) :
    (σ.raised f).contains .quit = true ∧ ∀ p ∈ f.blocking, released (σ.raised f) p = true := by
  simp only [Ready, Bool.and_eq_true, List.all_eq_true] at hr
  have hmono := raisedOf_take_mono f.order _ _ hge
  exact ⟨hmono _ hr.1.2, fun p hp => released_mono _ _ p hmono (hr.2 p hp)⟩

theorem ready_wait (f : Facts) (hr : Ready f = true) : f.order.contains "g.wg.Wait" = true := by
  simp only [Ready, Bool.and_eq_true] at hr
  exact hr.1.1

theorem wf_step (f : Facts) (hr : Ready f = true) (σ σ' : CSt) (m : Move) (h : WF f σ) (hs : cstep f σ m = some σ') :
    WF f σ' := by
  cases m with
  | closer =>
    obtain ⟨c, hc, hd, rfl⟩ := (cstep_closer f σ σ').mp hs
    refine ⟨h.points, (List.getElem?_eq_some_iff.mp hc).1, fun hgt => ?_⟩
    rcases Nat.lt_or_eq_of_le (Nat.le_of_lt_succ hgt) with h1 | h1
    · exact h.after_wait h1
    · rw [← h1, order_at_waitIdx f (ready_wait f hr)] at hc
      exact hd (Option.some.inj hc).symm
  | wake i next =>
    obtain ⟨p, hg, _, g, hgq, rfl⟩ := (cstep_wake f σ σ' i next).mp hs
    refine ⟨fun q hq => ?_, h.pc_le, fun hgt => absurd hg (allDone_get σ (h.after_wait hgt) i p)⟩
    rcases List.mem_or_eq_of_mem_set hq with h1 | rfl
    · exact h.points q h1
    · -- the goroutine has not returned, so it has gone on to `next`, a point of the table
      split at hgq
      · exact nomatch hgq
      · exact Option.some.inj hgq.1 ▸ List.contains_iff_mem.mp hgq.2

/-- **no deadlock before Close has returned**: in every well-formed state in which
    Close still has calls to make, some move is enabled — Close's next call, or,
    when Close sits in `wg.Wait()`, a goroutine that has not returned yet -/
theorem no_deadlock (f : Facts) (hr : Ready f = true) (σ : CSt) (h : WF f σ) (hnf : σ.final f = false) :
    ∃ m, (cstep f σ m).isSome = true := by
  have hlt : σ.pc < f.order.length := Nat.lt_of_le_of_ne h.pc_le (beq_eq_false_iff_ne.mp hnf)
  have hc := List.getElem?_eq_getElem hlt
  by_cases hd : f.order[σ.pc] = "g.wg.Wait" → σ.allDone = true
  · exact ⟨.closer, Option.isSome_of_eq_some ((cstep_closer f σ _).mpr ⟨_, hc, hd, rfl⟩)⟩
  · -- Close sits in the wait and some goroutine has not returned: it is released and, quit being raised, returns
    obtain ⟨hw, hd⟩ := Decidable.not_imp_iff_and_not.mp hd
    obtain ⟨_ | p, hg, hgn⟩ := List.all_eq_false.mp (Bool.not_eq_true _ ▸ hd)
    · exact absurd rfl hgn
    obtain ⟨i, hi, hgi⟩ := List.getElem_of_mem hg
    obtain ⟨hquit, hrel⟩ := ready_at_wait f hr σ (waitIdx_le f σ.pc (hw ▸ hc))
    exact ⟨.wake i p, Option.isSome_of_eq_some ((cstep_wake f σ _ i p).mpr
      ⟨p, hgi ▸ List.getElem?_eq_getElem hi, hrel p (h.points p hg), none, by rw [if_pos hquit], rfl⟩)⟩

/-! ### the measure -/

def mu (f : Facts) (σ : CSt) : Nat := (f.order.length - σ.pc) + σ.live

theorem live_set_none (l : List (Option BlockPoint)) (i : Nat) (p : BlockPoint) (h : l[i]? = some (some p)) :
    ((l.set i none).filter (· != none)).length + 1 = (l.filter (· != none)).length := by
  obtain ⟨hi, hp⟩ := List.getElem?_eq_some_iff.mp h
  have hpos : 0 < l.countP (· != none) := List.countP_pos_iff.mpr ⟨_, List.mem_of_getElem? h, rfl⟩
  rw [← List.countP_eq_length_filter, ← List.countP_eq_length_filter, List.countP_set hi, hp]
  exact Nat.sub_add_cancel hpos

/-- **once Close has reached `wg.Wait()`, every move makes progress**: a woken
    goroutine returns (quit is closed), Close's calls are consumed — the sum of
    both strictly decreases whatever the scheduler does -/
theorem move_decreases (f : Facts) (hr : Ready f = true) (σ σ' : CSt) (m : Move) (h : WF f σ)
    (hge : waitIdx f ≤ σ.pc) (hs : cstep f σ m = some σ') :
    mu f σ' + 1 = mu f σ ∧ waitIdx f ≤ σ'.pc := by
  cases m with
  | closer =>
    obtain ⟨c, hc, _, rfl⟩ := (cstep_closer f σ σ').mp hs
    refine ⟨?_, Nat.le_succ_of_le hge⟩
    calc f.order.length - (σ.pc + 1) + σ.live + 1
      _ = f.order.length - σ.pc - 1 + 1 + σ.live := Nat.add_right_comm _ _ _
      _ = f.order.length - σ.pc + σ.live := by
        rw [Nat.sub_add_cancel (Nat.sub_pos_of_lt (List.getElem?_eq_some_iff.mp hc).1)]
  | wake i next =>
    obtain ⟨p, hg, _, g, hgq, rfl⟩ := (cstep_wake f σ σ' i next).mp hs
    rw [if_pos (ready_at_wait f hr σ hge).1] at hgq
    subst hgq
    exact ⟨(Nat.add_assoc _ _ _).trans (congrArg _ (live_set_none σ.gs i p hg)), hge⟩

/-- **the rest of Close is bounded under every scheduler**: from a state in which
    Close has reached `wg.Wait()`, no run is longer than (calls left) + (goroutines left) -/
theorem run_bounded (f : Facts) (hr : Ready f = true) (ms : List Move) :
    ∀ (σ σ' : CSt), WF f σ → waitIdx f ≤ σ.pc → crun f σ ms = some σ' → ms.length + mu f σ' = mu f σ := by
  induction ms with
  | nil => intro σ σ' _ _ h; cases h; exact Nat.zero_add _
  | cons m ms ih =>
    intro σ σ' h hge hrun
    obtain ⟨σ1, h1, hrun⟩ := (crun_cons f σ σ' m ms).mp hrun
    obtain ⟨hd, hge1⟩ := move_decreases f hr σ σ1 m h hge h1
    rw [List.length_cons, ← hd, ← ih σ1 σ' (wf_step f hr σ σ1 m h h1) hge1 hrun, Nat.add_right_comm]

theorem wf_run (f : Facts) (hr : Ready f = true) (ms : List Move) :
    ∀ (σ σ' : CSt), WF f σ → crun f σ ms = some σ' → WF f σ' := by
  induction ms with
  | nil => intro σ σ' h hrun; cases hrun; exact h
  | cons m ms ih =>
    intro σ σ' h hrun
    obtain ⟨σ1, h1, hrun⟩ := (crun_cons f σ σ' m ms).mp hrun
    exact ih σ1 σ' (wf_step f hr σ σ1 m h h1) hrun

/-- the states Close can start in: no call made yet, the loop goroutines anywhere in the table -/
def Start (f : Facts) (σ : CSt) : Prop := σ.pc = 0 ∧ ∀ p, some p ∈ σ.gs → p ∈ f.blocking

theorem wf_start (f : Facts) (σ : CSt) (h : Start f σ) : WF f σ :=
  ⟨h.2, h.1 ▸ Nat.zero_le _, fun hlt => absurd (h.1 ▸ hlt) (Nat.not_lt_zero _)⟩

/-- **when Close has returned, both loop goroutines have returned** — in every run,
    from every starting configuration -/
theorem returned_means_all_done (f : Facts) (hr : Ready f = true) (σ σ' : CSt) (ms : List Move)
    (hstart : Start f σ) (hrun : crun f σ ms = some σ') (hfin : σ'.final f = true) : σ'.allDone = true := by
  apply (wf_run f hr ms σ σ' (wf_start f σ hstart) hrun).after_wait
  rw [beq_iff_eq.mp hfin]
  exact List.idxOf_lt_length_of_mem (List.contains_iff_mem.mp (ready_wait f hr))

/-! non-vacuity: the shape of the real table; two goroutines, one in a select, one in a stream read -/
def demo : Facts :=
  ⟨[], [], ["close", "g.sendPacket", "g.cancel", "g.sendQueue.stop", "g.wg.Wait", "g.pingTicker.Stop"],
   [⟨"select", [.quit]⟩, ⟨"recvFromStream", [.ctxCancel]⟩, ⟨"waitForSync", [.queueQuit, .timer]⟩]⟩

example : Ready demo = true := by decide +kernel
example : (crun demo ⟨0, [some ⟨"select", [.quit]⟩, some ⟨"recvFromStream", [.ctxCancel]⟩]⟩
    [.closer, .wake 0 ⟨"select", [.quit]⟩, .closer, .closer, .closer, .wake 1 ⟨"select", [.quit]⟩, .closer, .closer]).map
      (fun σ => (σ.final demo, σ.allDone)) = some (true, true) := by decide +kernel
/-- without `close(quit)` before the wait the table is not Ready -/
example : Ready ⟨[], [], ["g.cancel", "g.wg.Wait"], [⟨"recvFromStream", [.ctxCancel]⟩]⟩ = false := by decide +kernel

end Lnc.Props.C12
