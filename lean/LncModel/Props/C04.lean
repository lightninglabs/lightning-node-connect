import LncModel.Props.C03
/-
  C04 — Completed handshakes agree on keys, version, identities and auth
  payload (symbolic model; field-level man in the middle).
-/
namespace Lnc.Props.C04
open Lnc Lnc.Mailbox.Noise Lnc.Props.C03

/-- **AEAD binding**: a ciphertext is accepted only by a reader whose key,
    nonce and running digest are exactly those of its creator at creation time;
    garbage is never accepted.  (Every act ends in such a ciphertext, so an
    accepted act means the transcripts agreed up to that point.) -/
theorem decrypt_binds (st st' : St) (w : WCt) (pl : Pl) (h : decryptAndHash st w = .ok (st', pl)) :
    ∃ c, w = .hon c ∧ c.key = st.key ∧ c.nonce = st.n ∧ c.ad = st.h ∧ c.pl = pl ∧
      st'.h = st.h ++ [.ct c.id] := by
  obtain ⟨c, hw, hkey, hn, had, hpl, rfl⟩ := decryptAndHash_ok h
  exact ⟨c, hw, hkey, hn, had, hpl, rfl⟩

/-- the creator's digest after sealing and the acceptor's digest after opening coincide -/
theorem seal_open_digest (w r r' : St) (pl pl' : Pl) (h : decryptAndHash r (encryptAndHash w pl).2 = .ok (r', pl')) :
    r'.h = (encryptAndHash w pl).1.h ∧ pl' = pl ∧ r.key = w.key := by
  obtain ⟨c, hc, hkey, _, had, hpl, rfl⟩ := decryptAndHash_ok h
  cases hc
  exact ⟨congrArg (· ++ _) had.symm, hpl.symm, hkey.symm⟩

/-- **version 0: an auth payload that does not fit the fixed act-two buffer is
    refused by the responder** (never silently truncated) -/
theorem v0_payload_must_fit (st : St) (b : Bytes) (toks : List Token) (hv : st.version = 0)
    (hp : st.payload = some b) (hlen : b.length > 498)
    (st1 : St) (out : List Field) (ht : writeTokens toks st [.ver st.version] = .ok (st1, out))
    (hkeep : st1.version = 0 ∧ st1.payload = some b) :
    writeMsg st ⟨toks, false, 2⟩ = .error "auth payload does not fit" := by
  have hfit : b.length > actTwoPayloadSize - 2 := hlen
  simp only [writeMsg, ht, bind, Except.bind, hkeep.1, hkeep.2, ↓reduceIte, if_pos hfit]

/-! ### closed instances (key ids 1..4, passphrase 7, 40 byte payload): exhaustive tables -/

def agree : SideRes × SideRes → Bool
  | (.ok a, .ok b) =>
    a.version == b.version && a.sendKey == b.recvKey && a.recvKey == b.sendKey &&
    a.remoteStatic == some (.pub 3) && b.remoteStatic == some (.pub 1) &&
    a.authData == b.authData && a.digest == b.digest
  | _ => true

/-- without interference, for all 81 version ranges and both patterns: whenever
    both complete they hold the same version, complementary keys, each other's
    true static key, equal digests, and the initiator holds the responder's payload -/
theorem honest_agreement_table :
    ranges.all (fun (a, b, c, d) =>
      agree (run xxPattern (demoI a b none) (demoR c d none) noMitm) &&
      agree (run kkPattern (demoI a b (some (.pub 3))) (demoR c d (some (.pub 1))) noMitm)) = true := by decide +kernel

def rewriteMitm (rules : List (Nat × Nat × Field)) : Mitm := fun act fields =>
  fields.zipIdx.map fun (fld, idx) =>
    match rules.find? (fun r => r.1 = act ∧ r.2.1 = idx) with
    | some (_, _, f) => f
    | none => fld

/-- all single-field rewrites of the non-version fields of an XX handshake -/
def xxFieldRewrites : List (Nat × Nat × Field) :=
  [(1, 1, .point none), (1, 1, .point (some (.other 99))), (1, 2, .ct (.garbage 0)),
   (2, 1, .point none), (2, 1, .point (some (.other 99))), (2, 2, .ct (.garbage 0)),
   (2, 3, .ct (.garbage 0)), (2, 4, .ct (.garbage 0)), (3, 1, .ct (.garbage 0)), (3, 2, .ct (.garbage 0))]

def kkFieldRewrites : List (Nat × Nat × Field) :=
  [(1, 1, .point none), (1, 1, .point (some (.other 99))), (1, 2, .ct (.garbage 0)),
   (2, 1, .point none), (2, 1, .point (some (.other 99))), (2, 2, .ct (.garbage 0)), (2, 3, .ct (.garbage 0))]

/-- **tampering with any transcript field aborts**: every rewrite of a point or
    ciphertext field, alone or in pairs, makes at least one side fail — the two
    never both proceed -/
theorem tamper_hashed_aborts_table :
    (xxFieldRewrites.all fun r1 => xxFieldRewrites.all fun r2 =>
      !bothOk (run xxPattern (demoI 0 2 none) (demoR 0 2 none) (rewriteMitm [r1, r2]))) = true ∧
    (kkFieldRewrites.all fun r1 => kkFieldRewrites.all fun r2 =>
      !bothOk (run kkPattern (demoI 0 2 (some (.pub 3))) (demoR 0 2 (some (.pub 1))) (rewriteMitm [r1, r2]))) = true := by
  constructor <;> decide +kernel

/-- all substitutions of the three cleartext version bytes of an XX handshake by 0..3 (4 = keep) -/
def versionScripts : List (Nat × Nat × Nat) :=
  (List.range 5).flatMap fun a => (List.range 5).flatMap fun b => (List.range 5).map fun c => (a, b, c)

def versionMitm (s : Nat × Nat × Nat) : Mitm :=
  rewriteMitm (([(1, s.1), (2, s.2.1), (3, s.2.2)].filter fun x => x.2 < 4).map fun x => (x.1, 0, Field.ver x.2))

def versionsDiffer : SideRes × SideRes → Bool
  | (.ok a, .ok b) => a.version != b.version
  | _ => false

/-- The full statement — *every* completed pair agrees on the version, also
    under rewrites of the cleartext version bytes — is false of the protocol as
    implemented: the version byte is not part of the transcript hash. -/
def C04_version_statement : Prop :=
  ∀ s ∈ versionScripts,
    versionsDiffer (run xxPattern (demoI 0 2 none) (demoR 0 2 none) (versionMitm s)) = false

/-- **complete characterisation** (client and server both supporting 0..2): the
    two sides finish with different versions exactly when act 2's byte is
    rewritten 2→1 and act 3's byte 1→2 (whatever is done to act 1's byte as long
    as the server still accepts it); in every other script the versions agree or
    somebody fails.  Everything else (keys, identities, payload, digest) agrees
    in all 125 scripts. -/
theorem version_scripts_characterised :
    versionScripts.all (fun s =>
      let res := run xxPattern (demoI 0 2 none) (demoR 0 2 none) (versionMitm s)
      (versionsDiffer res == (decide (s.2.1 = 1 ∧ s.2.2 = 2 ∧ s.1 ≠ 3))) &&
      (match res with
       | (.ok a, .ok b) => a.sendKey == b.recvKey && a.recvKey == b.sendKey && a.remoteStatic == some (.pub 3) &&
           b.remoteStatic == some (.pub 1) && a.authData == b.authData && a.digest == b.digest
       | _ => true)) = true := by decide +kernel

theorem C04_version_split_counterexample : ¬ C04_version_statement := by
  intro h
  have hmem : (4, 1, 2) ∈ versionScripts := by
    simp only [versionScripts, List.mem_flatMap, List.mem_map, List.mem_range]
    exact ⟨4, by decide, 1, by decide, 2, by decide, rfl⟩
  obtain ⟨hrow, _⟩ := Bool.and_eq_true_iff.mp (List.all_eq_true.mp version_scripts_characterised _ hmem)
  rw [h _ hmem] at hrow
  exact absurd hrow (by decide)

/-- in the KK pattern only version 2 exists, so no rewrite of the version bytes splits the two sides -/
theorem kk_no_version_split :
    ((List.range 5).all fun a => (List.range 5).all fun b =>
      !versionsDiffer (run kkPattern (demoI 0 2 (some (.pub 3))) (demoR 0 2 (some (.pub 1)))
        (rewriteMitm (([(1, a), (2, b)].filter fun x => x.2 < 4).map fun x => (x.1, 0, Field.ver x.2))))) = true := by
  decide +kernel

/-- a version-0 act two is never accepted as version 1/2 or vice versa (the layouts differ) -/
theorem v0_never_confused_with_v12 :
    bothOk (run xxPattern (demoI 0 2 none) (demoR 0 0 none) (versionMitm (4, 1, 4))) = false ∧
    bothOk (run xxPattern (demoI 0 2 none) (demoR 0 2 none) (versionMitm (4, 0, 4))) = false := by decide +kernel

end Lnc.Props.C04
