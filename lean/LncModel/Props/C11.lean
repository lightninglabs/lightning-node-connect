import LncModel.Session
import LncModel.Props.C17
import LncModel.Props.C03
/-
  C11 — One live connection per session; reconnect and post-pairing switch line up.
-/
namespace Lnc.Props.C11
open Lnc Lnc.Mailbox.Session Lnc.Mailbox.Sid

/-- **never a second connection while the previous one is open**: in every
    accepted trace, a connection is handed out only when that side has none open -/
theorem one_live (st st' : St) (e : Ev) (h : step st e = some st') :
    (e = .acceptRet → st.srv.opened = false ∧ st'.srv.opened = true) ∧
    (e = .dialRet → st.cli.opened = false ∧ st'.cli.opened = true) := by
  constructor
  all_goals
    rintro rfl
    obtain ⟨hn, h⟩ := Option.ite_none_left_eq_some.mp h
    cases h
    exact ⟨Bool.eq_false_iff.mpr hn, rfl⟩

/-- **a fresh connection once the previous one has been closed** -/
theorem fresh_after_close (st : St) :
    (step { st with srv := { st.srv with opened := false } } .acceptRet).isSome = true ∧
    (step { st with cli := { st.cli with opened := false } } .dialRet).isSome = true :=
  ⟨rfl, rfl⟩

/-- **after a pairing handshake both parties are at the same, new, key-derived
    rendezvous** and a client that only has the passphrase derives another one -/
theorem switch_lines_up (st st' : St) (h : step st .handshakeV2 = some st') (intruderKey : Nat) :
    st'.srv.sid st'.entropy = st'.cli.sid st'.entropy ∧
    st'.srv.sid st'.entropy ≠ sidPre intruderKey none st'.entropy := by
  cases (Option.ite_none_right_eq_some.mp h).2
  exact ⟨Lnc.Props.C17.sid_symmetric _ _ _ _, Lnc.Props.C17.paired_sid_ne_passphrase_sid _ _ _ _ _⟩

/-- and should such a client be routed to the paired server anyway, its XX
    first message meets a KK responder: the pre-message digests differ, the
    handshake fails in act 1 (C03) -/
theorem unpaired_client_rejected (ci cr : Mailbox.Noise.Cfg) (rsI rsR : Mailbox.Noise.Pt)
    (hci : ci.rs = some rsI) (hcr : cr.rs = some rsR) (hmis : rsR ≠ .pub ci.ls ∨ rsI ≠ .pub cr.ls) :
    Lnc.Props.C03.failed (Mailbox.Noise.run Mailbox.Noise.kkPattern ci cr Mailbox.Noise.noMitm).2 = true :=
  (Lnc.Props.C03.kk_wrong_expected ci cr rsI rsR hci hcr hmis).2.1

/-- The full statement of the rendezvous clause: after any first connection in
    which the *client* stored the server's key, the two parties derive the same
    rendezvous. -/
def C11_rendezvous_statement : Prop :=
  ∀ (ks kc : Nat) (e : Bytes) (evs : List Ev) (st : St),
    run (init ks kc e) evs = some st → st.cli.remote.isSome = true → st.srv.sid st.entropy = st.cli.sid st.entropy

/-- **it is false of the protocol as it stands** (known finding
    `C11/half-paired-after-lost-act3`): the pairing handshake is not atomic. When
    its last message is lost the client has stored the server's key and moves to
    the key-derived rendezvous, the server has not and stays at the passphrase
    rendezvous; the two never meet again. -/
theorem C11_half_paired_counterexample : ¬ C11_rendezvous_statement := by
  intro h
  have := h 1 2 [7] [.acceptRet, .dialRet, .handshakeClientOnly, .closedC, .closedS] _ rfl rfl
  revert this
  decide

/-- for every pair of keys: after a client-only completion the rendezvous differ -/
theorem half_paired_never_meets (st st' : St) (h : step st .handshakeClientOnly = some st') (hs : st.srv.remote = none) :
    st'.srv.sid st'.entropy ≠ st'.cli.sid st'.entropy := by
  cases (Option.ite_none_right_eq_some.mp h).2
  rw [Side.sid, hs]
  exact fun he => Lnc.Props.C17.paired_sid_ne_passphrase_sid _ _ _ _ _ he.symm

/-! non-vacuity -/
example : ((run (init 3 1 [7]) [.acceptRet, .dialRet, .handshakeV2, .transfer, .closedC, .closedS, .dialRet, .acceptRet, .transfer]).map
    fun st => (st.srv.handed, st.cli.handed, st.srv.remote, st.cli.remote)) = some (2, 2, some 1, some 3) := by decide
example : run (init 3 1 [7]) [.acceptRet, .acceptRet] = none := by decide

end Lnc.Props.C11
