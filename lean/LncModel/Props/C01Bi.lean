import LncModel.Proofs.BiProj
import LncModel.Props.C01
/-
  C01 for the bidirectional connection: both directions share the two physical
  channels (DATA of one direction interleaved with ACK/NACK of the other in one
  FIFO that may drop, duplicate and delay).
-/
namespace Lnc.Props.C01
open Lnc Lnc.Gbn

theorem newFwd_single {σ σ' : Uni} {d : DataW} (h : σ'.fwd = σ.fwd ++ [d]) : newFwd σ σ' = [Wire.data d] := by
  simp [newFwd, h]

theorem newBwd_extra {σ σ' : Uni} {extra : List RespW} (h : σ'.bwd = σ.bwd ++ extra) :
    newBwd σ σ' = extra.map Wire.resp := by
  simp [newBwd, h]

def StepOK (n : Nat) (l : BiLabel) : Prop :=
  ∀ {β β' : Bi}, β.Coupled → Reachable n β.ab → Reachable n β.ba → β.step? l = some β' →
    β'.Coupled ∧ Reachable n β'.ab ∧ Reachable n β'.ba

/-- the labels of endpoint B are the mirror images of those of endpoint A -/
theorem StepOK.swap {n : Nat} {l : BiLabel} (H : StepOK n l) : StepOK n l.swap := by
  intro β β' hc ha hb h
  have h' : β.swap.step? l = some β'.swap := by
    rw [← l.swap_swap, Bi.step_swap, h]
    rfl
  obtain ⟨c, a, b⟩ := H hc.swap hb ha h'
  exact ⟨c.swap, b, a⟩

theorem stepOK_push {n : Nat} {β : Bi} {l : Label} {σ' : Uni} (hc : β.Coupled)
    (ha : Reachable n β.ab) (hb : Reachable n β.ba) (hs : β.ab.step? l = some σ')
    (hd : ∃ d, σ'.fwd = β.ab.fwd ++ [d] ∧ σ'.bwd = β.ab.bwd) :
    Bi.Coupled { β with ab := σ', chAB := β.chAB ++ newFwd β.ab σ' } ∧ Reachable n σ' ∧ Reachable n β.ba := by
  obtain ⟨d, hf, hbw⟩ := hd
  refine ⟨⟨?_, ?_, hc.baFwd, hbw.trans hc.abBwd⟩, ha.step hs, hb⟩
  · show σ'.fwd = dataOf (β.chAB ++ newFwd β.ab σ')
    rw [newFwd_single hf, dataOf_append, hf, hc.abFwd]
    rfl
  · show β.ba.bwd = respOf (β.chAB ++ newFwd β.ab σ')
    rw [newFwd_single hf, respOf_append, hc.baBwd]
    exact (List.append_nil _).symm

theorem stepOK_sendA (n : Nat) (p : Pkt) : StepOK n (.sendA p) := by
  intro β β' hc ha hb h
  obtain ⟨σ', hs, rfl⟩ := Option.map_eq_some_iff.mp h
  exact stepOK_push hc ha hb hs (step_sendNew hs)

theorem stepOK_retransA (n : Nat) (i : Nat) : StepOK n (.retransA i) := by
  intro β β' hc ha hb h
  obtain ⟨σ', hs, rfl⟩ := Option.map_eq_some_iff.mp h
  exact stepOK_push hc ha hb hs (step_retransmit hs)

/-! For the labels that act on the head of the channel A→B, the head decides
    which instance moves: DATA belongs to direction A⇒B (its `fwd`), a response
    to direction B⇒A (its `bwd`). -/

theorem stepOK_deliverAB (n : Nat) (nack : Bool) : StepOK n (.deliverAB nack) := by
  intro β β' hc ha hb h
  simp only [Bi.step?] at h
  split at h
  · cases h
  · next w rest hch =>
    obtain ⟨σ', hs, rfl⟩ := Option.map_eq_some_iff.mp h
    obtain ⟨c1, c2⟩ := hc.head_data hch
    obtain ⟨d, rest0, extra, hf, hf', hbw⟩ := step_fwdDeliver hs
    obtain ⟨rfl, rfl⟩ := List.cons.inj (hf.symm.trans c1)
    refine ⟨⟨hf', c2, ?_, ?_⟩, ha.step hs, hb⟩
    · show β.ba.fwd = dataOf (β.chBA ++ newBwd β.ab σ')
      rw [newBwd_extra hbw, dataOf_append, dataOf_map_resp, List.append_nil, hc.baFwd]
    · show σ'.bwd = respOf (β.chBA ++ newBwd β.ab σ')
      rw [newBwd_extra hbw, respOf_append, respOf_map_resp, hbw, hc.abBwd]
  · next w rest hch =>
    obtain ⟨σ', hs, rfl⟩ := Option.map_eq_some_iff.mp h
    obtain ⟨c1, c2⟩ := hc.head_resp hch
    obtain ⟨r, rest0, hbw, hbw', hf⟩ := step_bwdDeliver hs
    obtain ⟨rfl, rfl⟩ := List.cons.inj (hbw.symm.trans c2)
    exact ⟨⟨c1, hbw', hf.trans hc.baFwd, hc.abBwd⟩, ha, hb.step hs⟩

theorem stepOK_dupAB (n : Nat) : StepOK n .dupAB := by
  intro β β' hc ha hb h
  simp only [Bi.step?] at h
  split at h
  · cases h
  · next w rest hch =>
    obtain ⟨c1, c2⟩ := hc.head_data hch
    have hs := step_fwdDup c1
    rw [hs] at h
    cases h
    exact ⟨⟨rfl, c2, hc.baFwd, hc.abBwd⟩, ha.step hs, hb⟩
  · next w rest hch =>
    obtain ⟨c1, c2⟩ := hc.head_resp hch
    have hs := step_bwdDup c2
    rw [hs] at h
    cases h
    exact ⟨⟨c1, rfl, hc.baFwd, hc.abBwd⟩, ha, hb.step hs⟩

theorem stepOK_dropAB (n : Nat) : StepOK n .dropAB := by
  intro β β' hc ha hb h
  simp only [Bi.step?] at h
  split at h
  · cases h
  · next w rest hch =>
    obtain ⟨c1, c2⟩ := hc.head_data hch
    have hs := step_fwdDrop c1
    rw [hs] at h
    cases h
    exact ⟨⟨rfl, c2, hc.baFwd, hc.abBwd⟩, ha.step hs, hb⟩
  · next w rest hch =>
    obtain ⟨c1, c2⟩ := hc.head_resp hch
    have hs := step_bwdDrop c2
    rw [hs] at h
    cases h
    exact ⟨⟨c1, rfl, hc.baFwd, hc.abBwd⟩, ha, hb.step hs⟩

/-- one physical step: the coupling is kept and each instance makes at most one
    step of its own transition system -/
theorem bi_step {n : Nat} {β β' : Bi} {l : BiLabel} (hc : β.Coupled)
    (ha : Reachable n β.ab) (hb : Reachable n β.ba) (h : β.step? l = some β') :
    β'.Coupled ∧ Reachable n β'.ab ∧ Reachable n β'.ba := by
  suffices H : StepOK n l from H hc ha hb h
  cases l with
  | sendA p => exact stepOK_sendA n p
  | sendB p => exact StepOK.swap (stepOK_sendA n p)
  | retransA i => exact stepOK_retransA n i
  | retransB i => exact StepOK.swap (stepOK_retransA n i)
  | deliverAB nack => exact stepOK_deliverAB n nack
  | deliverBA nack => exact StepOK.swap (stepOK_deliverAB n nack)
  | dupAB => exact stepOK_dupAB n
  | dupBA => exact StepOK.swap (stepOK_dupAB n)
  | dropAB => exact stepOK_dropAB n
  | dropBA => exact StepOK.swap (stepOK_dropAB n)

theorem bi_run {n : Nat} (ls : List BiLabel) {β β' : Bi} (hc : β.Coupled)
    (ha : Reachable n β.ab) (hb : Reachable n β.ba) (h : β.run? ls = some β') :
    β'.Coupled ∧ Reachable n β'.ab ∧ Reachable n β'.ba := by
  induction ls generalizing β with
  | nil =>
    cases h
    exact ⟨hc, ha, hb⟩
  | cons l ls ih =>
    simp only [Bi.run?] at h
    split at h
    · next β1 h1 =>
      obtain ⟨c, a, b⟩ := bi_step hc ha hb h1
      exact ih c a b h
    · cases h

theorem bi_reachable {n : Nat} {β : Bi} (hr : BiReachable n β) :
    β.Coupled ∧ Reachable n β.ab ∧ Reachable n β.ba := by
  obtain ⟨ls, hls⟩ := hr
  exact bi_run ls ⟨rfl, rfl, rfl, rfl⟩ ⟨[], rfl⟩ ⟨[], rfl⟩ hls

/-- **C01 for the bidirectional connection.**  For every window size, every
    interleaving of the two directions' sends, retransmissions and receive
    processing, and every drop / in-place duplication / delay of the packets on
    the two shared physical channels: what each side's application receives is
    a prefix of what the other side's Send accepted. -/
theorem C01_bi (n : Nat) (hn : 0 < n) (hn254 : n ≤ 254) (β : Bi) (hr : BiReachable n β) :
    β.ab.out <+: β.ab.accepted ∧ β.ba.out <+: β.ba.accepted :=
  have ⟨_, ra, rb⟩ := bi_reachable hr
  ⟨C01_uni n hn hn254 _ ra, C01_uni n hn hn254 _ rb⟩

/-! non-vacuity: both directions active, an ACK of one direction queued behind
    DATA of the other on the same channel, a duplicate, a drop -/
example : ((Bi.init 2).run? [.sendA (pk 1), .sendB (pk 7), .deliverAB false, .sendB (pk 8), .dupBA,
      .deliverBA false, .deliverBA true, .deliverBA false, .deliverBA false, .deliverAB false,
      .sendA (pk 2), .dropAB, .retransA 1, .deliverAB false, .deliverAB false, .deliverAB true]).map
    (fun β => (β.ab.out, β.ba.out, β.chAB.length, β.chBA.length)) = some ([pk 1, pk 2], [pk 7, pk 8], 0, 2) := by decide

end Lnc.Props.C01
