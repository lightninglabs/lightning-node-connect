import LncModel.Accept
import LncModel.Props.C17
/-
  C11, timing of Accept relative to the previous connection's shutdown and to
  the pairing handshake.
-/
namespace Lnc.Props.C11
open Lnc Lnc.Mailbox.Sid Lnc.Mailbox.Accept

/-- **with the rendezvous read after the wait (the code as it is), the
    connection an Accept hands out is at the rendezvous derived from the keys
    stored at that moment** — whatever happened while it was waiting -/
theorem proceed_uses_current_keys (s s' : Srv) (h : step false s .proceed = some s')
    (hw : s.waiting = some none) : s'.listening = some s.sidNow := by
  simp only [step, hw] at h
  cases (Option.ite_none_left_eq_some.mp h).2
  rfl

/-- an Accept entered with `readEarly = false` never carries a snapshot -/
theorem enter_no_snapshot (s s' : Srv) (h : step false s .enter = some s') : s'.waiting = some none := by
  cases (Option.ite_none_left_eq_some.mp h).2
  rfl

/-- **the switch lines up for every timing of the next Accept**: an Accept that
    is already waiting when the pairing handshake completes — the timing gRPC's
    serve loop produces — still hands out its connection at the key-derived
    rendezvous, which is the one the paired client derives (C17) and not the
    passphrase rendezvous -/
theorem early_accept_lines_up (sk ck : Nat) (e : Bytes) :
    ∃ s, run false (init sk e) [.enter, .proceed, .enter, .paired ck, .closed, .proceed] = some s ∧
      s.listening = some (sidPre ck (some sk) e) ∧ s.listening ≠ some (sidPre ck none e) :=
  ⟨_, rfl, congrArg some (Lnc.Props.C17.sid_symmetric sk ck e e), fun h =>
    Lnc.Props.C17.paired_sid_ne_passphrase_sid sk ck ck e e (Option.some.inj h)⟩

/-- … whereas reading the rendezvous on entry leaves that Accept at the
    passphrase rendezvous: the paired client never meets it and a client that
    only has the passphrase does (this is what the obligation
    `Inst.C11.sid_recomputed_each_time` excludes for the current source) -/
theorem read_on_entry_counterexample (sk ck : Nat) (e : Bytes) :
    ∃ s, run true (init sk e) [.enter, .proceed, .enter, .paired ck, .closed, .proceed] = some s ∧
      s.listening = some (sidPre ck none e) ∧ s.listening ≠ some (sidPre ck (some sk) e) :=
  ⟨_, rfl, rfl, fun h => Lnc.Props.C17.paired_sid_ne_passphrase_sid ck sk sk e e (Option.some.inj h).symm⟩

/-- one live connection: `proceed` is disabled while the previous connection is open -/
theorem proceed_blocked_while_open (b : Bool) (s : Srv) (h : s.connOpen = true) : step b s .proceed = none := by
  simp only [step]
  cases s.waiting with
  | none => rfl
  | some snap => exact if_pos h

end Lnc.Props.C11
