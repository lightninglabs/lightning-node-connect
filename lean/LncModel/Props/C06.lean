import LncModel.Proofs.ProtoInv
import LncModel.Control
import LncModel.Proofs.QueueArith
/-
  C06 — GBN progress (the untimed logical core; the timed statement is explored
  on the real connection, see DESIGN.md).
-/
namespace Lnc.Props.C06
open Lnc Lnc.Gbn Lnc.ModArith

/-- **stops retransmitting once everything has been acknowledged**: with an
    empty window the resend iteration sends nothing -/
theorem quiescent_silent (s fuel b : Nat) : resendSeqs s (fuel + 1) b b = .ok [] := by
  rw [resendSeqs, if_pos rfl]

theorem size_zero_of_base_eq_top (s t : Nat) (ht : t < 256) : Queue.size ⟨s, t, t⟩ = 0 :=
  size_self s t

theorem resendSeqs_range' {s : Nat} (hs : s < 256) {k B fuel : Nat} (hk : k < s) (hf : k < fuel) :
    resendSeqs s fuel (B % s) ((B + k) % s) = .ok ((List.range' B k).map (· % s)) := by
  induction k generalizing B fuel with
  | zero =>
    obtain ⟨fuel, rfl⟩ := Nat.exists_eq_add_one.mpr hf
    exact quiescent_silent s fuel _
  | succ k ih =>
    obtain ⟨fuel, rfl⟩ := Nat.exists_eq_add_one.mpr (Nat.zero_lt_of_lt hf)
    -- base and top differ: residues are distinct inside a window shorter than `s`
    have hne : B % s ≠ (B + (k + 1)) % s := fun he =>
      Nat.ne_of_lt (Nat.lt_add_of_pos_right (Nat.succ_pos k))
        (eq_of_mod_eq B (B + (k + 1)) s he (Nat.le_add_right _ _) (Nat.add_lt_add_left hk B))
    rw [resendSeqs_succ fuel hne (Nat.mod_lt _ (Nat.zero_lt_of_lt hk)) hs, Nat.mod_add_mod,
      ← Nat.add_assoc B k 1, Nat.add_right_comm B k 1,
      ih (Nat.lt_of_succ_lt hk) (Nat.lt_of_succ_lt_succ hf)]
    rfl

/-- the resend iteration over a window of `k` packets starting at absolute index `B` -/
theorem resendSeqs_window (s : Nat) (hs2 : 1 < s) (hs : s ≤ 255) (k : Nat) :
    ∀ (B fuel : Nat), k < s → k < fuel →
      resendSeqs s fuel (B % s) ((B + k) % s) = .ok ((List.range k).map fun i => (B + i) % s) := by
  intro B fuel hk hf
  rw [resendSeqs_range' (Nat.lt_succ_of_le hs) hk hf, List.range'_eq_map_range, List.map_map]
  rfl

/-- **a resend round re-offers exactly the outstanding window**: in every
    reachable state `resend()`'s loop visits the sequence numbers of packets
    B, B+1, …, T-1 in this order, and never indexes outside the queue -/
theorem resend_covers_window (σ : Uni) (h : Inv σ) :
    resendSeqs σ.q.s (σ.q.s + 1) σ.q.base σ.q.top =
      .ok ((List.range (σ.T - σ.B)).map fun i => (σ.B + i) % σ.q.s) := by
  have hk : σ.T - σ.B < σ.q.s := Nat.sub_lt_left_of_lt_add h.B_le_T h.T_lt
  have := resendSeqs_window σ.q.s (Nat.lt_of_le_of_lt h.n_pos h.n_lt_s) h.s_le (σ.T - σ.B) σ.B
    (σ.q.s + 1) hk (Nat.lt_succ_of_lt hk)
  rwa [Nat.add_sub_cancel' h.B_le_T, ← h.base_eq, ← h.top_eq] at this

/-- **the ACK of the last outstanding packet empties the queue**, from any
    reachable state in which the receiver has everything -/
theorem ack_of_top_empties (σ : Uni) (h : Inv σ) (hR : σ.R = σ.T) (hpos : σ.B < σ.T) :
    ∃ b, σ.q.processACK ((σ.T - 1) % σ.q.s) = .ok ({ σ.q with base := σ.q.top }, b) ∧
      Queue.size { σ.q with base := σ.q.top } = 0 := by
  obtain ⟨b, hb⟩ := processACK_spec h ((σ.T - 1) % σ.q.s) σ.T (Nat.zero_lt_of_lt hpos)
    (Nat.le_of_lt hpos) (Nat.le_of_eq hR.symm) rfl
  exact ⟨b, by rw [hb, h.top_eq], size_self _ _⟩

/-- **a NACK naming the top empties the queue** (the `seq == sequenceTop` shortcut is sound) -/
theorem nack_of_top_empties (σ : Uni) (h : Inv σ) (hR : σ.R = σ.T) :
    (σ.q.processNACK (σ.T % σ.q.s)).1 = { σ.q with base := σ.q.top } := by
  rw [← h.top_eq, processNACK_top σ.q (h.top_eq ▸ Nat.mod_lt _ (Nat.zero_lt_of_lt h.n_lt_s))]

/-! ### the resend timer is not starved by the peer's own traffic -/
open Lnc.Gbn.Control in
/-- **with the repaired reset rule, whatever DATA / ping traffic the peer sends,
    the resend timer fires by its deadline** (so a lost packet is retransmitted
    one resend timeout after the last response, for every reverse-traffic
    pattern) -/
theorem resend_fires_despite_peer_traffic (rt : ResendTimer) (hist : List (RxKind × Nat)) (horizon : Nat)
    (hdata : ∀ e ∈ hist, e.1 = RxKind.data) (hh : rt.deadline ≤ horizon) :
    firesBy resetsOnResponse rt hist horizon = true := by
  induction hist with
  | nil => exact decide_eq_true hh
  | cons e rest ih =>
    obtain ⟨k, t⟩ := e
    obtain rfl : k = RxKind.data := hdata (k, t) List.mem_cons_self
    rw [firesBy]
    by_cases hd : rt.deadline ≤ t
    · rw [if_pos hd]
    · -- a DATA packet leaves the timer as it is
      rw [if_neg hd]
      exact ih fun e he => hdata e (List.mem_cons_of_mem _ he)

open Lnc.Gbn.Control in
theorem peerTraffic_succ (t0 p n : Nat) :
    peerTraffic t0 p (n + 1) = (RxKind.data, t0 + p) :: peerTraffic (t0 + p) p n := by
  simp only [peerTraffic, List.range_succ_eq_map, List.map_cons, List.map_map]
  congr 1
  · simp
  · refine List.map_congr_left fun i _ => ?_
    simp only [Function.comp, Nat.succ_eq_add_one, Prod.mk.injEq, true_and]
    rw [Nat.add_mul (i + 1) 1 p, Nat.one_mul]
    omega

open Lnc.Gbn.Control in
/-- **the rule before the repair is starved**: a peer sending with any period
    shorter than the resend timeout keeps the timer from ever firing — for
    every length of the history (this is the retired known finding
    `C06/retransmit-starved-by-reverse-traffic`, and its keepalive-ping variant) -/
theorem starved_before_repair (T p : Nat) (hp : p < T) (n t0 : Nat) :
    firesBy resetsOnAny ⟨t0 + T, T⟩ (peerTraffic t0 p n) (t0 + n * p) = false := by
  induction n generalizing t0 with
  | zero =>
    refine decide_eq_false (Nat.not_le_of_lt ?_)
    rw [Nat.zero_mul]
    exact Nat.lt_add_of_pos_right (Nat.zero_lt_of_lt hp)
  | succ n ih =>
    -- the packet at `t0 + p` arrives before the deadline `t0 + T` and moves it to `t0 + p + T`
    have hlt : ¬ t0 + T ≤ t0 + p := Nat.not_le_of_lt (Nat.add_lt_add_left hp t0)
    have hn : t0 + (n + 1) * p = t0 + p + n * p := by
      rw [Nat.add_mul, Nat.one_mul, Nat.add_comm _ p, Nat.add_assoc]
    rw [peerTraffic_succ, firesBy, if_neg hlt, hn]
    exact ih (t0 + p)

/-! ### the syncer's expected ACK (`initResendUpTo`) and its 8-bit wrap -/

/-- the value `(s + top - 1) % s` takes when `s + top` does not fit a byte -/
theorem syncerExpect_val (s top : Nat) (hs : 0 < s) (hs255 : s ≤ 255) (ht : top < s) :
    syncerExpect s top = .ok ((if s + top ≤ 256 then s + top - 1 else s + top - 257) % s, top) := by
  rw [syncerExpect_eq top hs]
  have key : sub8 (add8 s top) 1 = if s + top ≤ 256 then s + top - 1 else s + top - 257 := by
    by_cases h : s + top < 256
    · rw [add8_of_lt h, sub8_of_le (Nat.le_trans hs (Nat.le_add_right s top)) h, if_pos (Nat.le_of_lt h)]
    · -- `s + top` wraps to `s + top - 256`; at exactly 256 the subtraction of 1 wraps back to 255
      have hw : add8 s top = s + top - 256 := by
        unfold add8
        rw [Nat.mod_eq_sub_mod (Nat.le_of_not_lt h), Nat.mod_eq_of_lt (by omega)]
      by_cases h' : s + top = 256
      · rw [hw, h']
        rfl
      · rw [hw, sub8_of_le (by omega) (by omega), if_neg (by omega), Nat.sub_sub]
  rw [key]

/-- **the sync wait expects the ACK of the last re-sent packet, `(top - 1) mod s`,
    exactly when `s + top` fits a byte** — so for every window below 128 always,
    and for larger windows only in the lower part of the sequence space -/
theorem syncerExpect_correct_iff (s top : Nat) (hs : 0 < s) (hs255 : s ≤ 255) (ht : top < s) :
    syncerExpect s top = .ok ((top + s - 1) % s, top) ↔ s + top ≤ 256 := by
  rw [syncerExpect_val s top hs hs255 ht]
  constructor
  · intro h
    refine Decidable.byContradiction fun hle => ?_
    rw [if_neg hle] at h
    have he : (top + s - 1) % s = (s + top - 257) % s := (Prod.mk.inj (Outcome.ok.inj h)).1.symm
    -- the two arguments differ by 256, so `s` would divide 256; but 128 < s < 256
    have hd := Nat.sub_mod_eq_zero_of_mod_eq he
    rw [show top + s - 1 - (s + top - 257) = 256 by omega, Nat.mod_eq_sub_mod (by omega),
      Nat.mod_eq_of_lt (by omega)] at hd
    omega
  · intro hle
    rw [if_pos hle, Nat.add_comm top s]

/-- the wrap is real: window 199 (s = 200), top = 100 — the syncer waits for ACK 43, the last re-sent packet is 99 -/
theorem syncerExpect_wrap_counterexample : syncerExpect 200 100 = .ok (43, 100) ∧ (100 + 200 - 1) % 200 = 99 := by decide

/-! non-vacuity -/
example : resendSeqs 4 5 3 1 = .ok [3, 0] := by decide
open Lnc.Gbn.Control in
example : firesBy resetsOnResponse ⟨10, 10⟩ (peerTraffic 0 3 5) 20 = true ∧
          firesBy resetsOnAny ⟨10, 10⟩ (peerTraffic 0 3 5) 20 = false := by decide

end Lnc.Props.C06
