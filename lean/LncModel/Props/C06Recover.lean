import LncModel.Proofs.ProtoStep
/-
  C06 — the recovery half of "GBN progress", on the transition system of
  Proto.lean: once the transport stops losing and duplicating packets,

    (1) whatever is still in flight drains (`settle`), and
    (2) ONE resend round — the sender re-offers its window B … T-1, the
        receiver handles the copies in order, the responses come back —
        delivers every accepted message and empties the send queue
        (`resend_round_completes`),

  from EVERY state the invariant allows, hence from every state any history of
  loss, duplication and delay can lead to (`C06_recovery`): no reachable state
  is a silent stall.  The receiver's NACK back-off is a parameter (`fl`, one
  flag per out-of-order packet): the only requirement is the one the code
  meets, that the first out-of-order packet of a round is answered when the
  receiver already has everything (otherwise a sender whose ACKs were all lost
  would never learn it).

  What is not in this file: time.  That the send loop does start such a round
  within the resend timeout is the obligation `resend_reachable_from_every_resting_select`
  on the regenerated facts plus `resend_fires_despite_peer_traffic`; that the
  real connection meets the timed bound is explored on the real code under
  virtual time.
-/
namespace Lnc.Props.C06
open Lnc Lnc.Gbn

/-- labels a reliable transport and an idle application can produce: retransmissions and in-order deliveries -/
def reliable : Label → Bool
  | .retransmit _ => true
  | .fwdDeliver _ => true
  | .bwdDeliver => true
  | _ => false

/-- the value the sender's cumulative counter takes once everything in `bwd` has been processed -/
def lastVal (σ : Uni) : Nat :=
  match σ.bwd.getLast? with
  | some r => r.val
  | none => σ.B

def Synced (σ : Uni) : Prop := lastVal σ = σ.R

theorem run_append (σ : Uni) (a b : List Label) :
    σ.run? (a ++ b) = (σ.run? a).bind (fun σ' => σ'.run? b) :=
  runQ_append σ a b

theorem lastVal_snoc (σ : Uni) (bwd : List RespW) (r : RespW) (h : σ.bwd = bwd ++ [r]) : lastVal σ = r.val := by
  rw [lastVal, h, List.getLast?_concat]

def acceptSt (σ : Uni) (d : DataW) (rest : List DataW) : Uni :=
  { σ with fwd := rest,
           bwd := σ.bwd ++ [⟨.ack, d.seq, σ.R + 1⟩],
           recvSeq := (add8 σ.recvSeq 1) % σ.q.s,
           R := σ.R + 1,
           out := if d.pkt.ping then σ.out else σ.out ++ [d.pkt] }

def rejectSt (σ : Uni) (rest : List DataW) (b : Bool) : Uni :=
  { σ with fwd := rest,
           bwd := if b then σ.bwd ++ [⟨.nack, σ.recvSeq, σ.R⟩] else σ.bwd }

def respSt (σ : Uni) (q' : Queue) (rest : List RespW) (v : Nat) : Uni :=
  { σ with q := q', bwd := rest, B := v }

theorem step_accept (σ : Uni) (d : DataW) (rest : List DataW) (b : Bool) (hf : σ.fwd = d :: rest)
    (ha : d.seq = σ.recvSeq) : σ.step? (.fwdDeliver b) = some (acceptSt σ d rest) := by
  simp only [Uni.step?, hf, ha, ↓reduceIte, acceptSt]

theorem step_reject (σ : Uni) (d : DataW) (rest : List DataW) (b : Bool) (hf : σ.fwd = d :: rest)
    (ha : d.seq ≠ σ.recvSeq) : σ.step? (.fwdDeliver b) = some (rejectSt σ rest b) := by
  simp only [Uni.step?, hf, ha, ↓reduceIte, rejectSt]

theorem rejectSt_bwd_length (σ : Uni) (rest : List DataW) (b : Bool) :
    (rejectSt σ rest b).bwd.length ≤ σ.bwd.length + 1 := by
  cases b
  · exact Nat.le_succ _
  · exact Nat.le_of_eq List.length_append

theorem fwdDeliver_cons (σ : Uni) (d : DataW) (rest : List DataW) (b : Bool) (hf : σ.fwd = d :: rest) :
    ∃ σ1, σ.step? (.fwdDeliver b) = some σ1 ∧ σ1.fwd = rest ∧ σ1.T = σ.T ∧ σ1.log = σ.log ∧
      σ1.n = σ.n ∧ σ1.bwd.length ≤ σ.bwd.length + 1 := by
  by_cases ha : d.seq = σ.recvSeq
  · exact ⟨_, step_accept σ d rest b hf ha, rfl, rfl, rfl, rfl, Nat.le_of_eq List.length_append⟩
  · exact ⟨_, step_reject σ d rest b hf ha, rfl, rfl, rfl, rfl, rejectSt_bwd_length σ rest b⟩

/-- **whatever is in flight towards the receiver can be delivered**, for every
    choice the receiver makes about NACKs; nothing is un-sent or un-logged by it -/
theorem drain_fwd (k : Nat) : ∀ (σ : Uni) (fl : List Bool), Inv σ → σ.fwd.length = k → fl.length = k →
    ∃ σ', σ.run? (fl.map .fwdDeliver) = some σ' ∧ σ'.fwd = [] ∧ σ'.T = σ.T ∧ σ'.log = σ.log ∧ σ'.n = σ.n ∧
      σ'.bwd.length ≤ σ.bwd.length + k := by
  induction k with
  | zero =>
    intro σ fl _ hk hfl
    cases List.length_eq_zero_iff.mp hfl
    exact ⟨σ, rfl, List.length_eq_zero_iff.mp hk, rfl, rfl, rfl, Nat.le_refl _⟩
  | succ k ih =>
    intro σ fl h hk hfl
    obtain ⟨d, rest, hf⟩ := List.exists_cons_of_length_eq_add_one hk
    obtain ⟨b, fl', rfl⟩ := List.exists_cons_of_length_eq_add_one hfl
    obtain ⟨σ1, hs, e1, e2, e3, e4, e5⟩ := fwdDeliver_cons σ d rest b hf
    rw [hf] at hk
    obtain ⟨σ', hr, h1, h2, h3, h4, h5⟩ := ih σ1 fl' (inv_step h _ hs)
      (e1.symm ▸ Nat.succ.inj hk) (Nat.succ.inj hfl)
    exact ⟨σ', (Uni.run_cons hs _).trans hr, h1, h2.trans e2, h3.trans e3, h4.trans e4, by omega⟩

/-- no response the receiver can have produced is refused: the sender's step on the
    head of the backward channel is enabled, sets `B` to the value it carried -/
theorem bwdDeliver_enabled (σ : Uni) (h : Inv σ) (r : RespW) (rest : List RespW) (hb : σ.bwd = r :: rest) :
    ∃ q', σ.step? .bwdDeliver = some (respSt σ q' rest r.val) := by
  have hro : RespOk σ r := h.bwd_ok r (hb ▸ List.mem_cons_self)
  cases hk : r.kind with
  | ack =>
    have ha := hro.ack_seq hk
    obtain ⟨b, hp⟩ := processACK_spec h r.seq r.val ha.1 hro.lo hro.hi ha.2
    exact ⟨{ σ.q with base := r.val % σ.q.s }, by simp only [Uni.step?, hb, hk, hp, respSt]⟩
  | nack => exact ⟨(σ.q.processNACK r.seq).1, by simp only [Uni.step?, hb, hk, respSt]⟩

theorem lastVal_respSt (σ : Uni) (q' : Queue) (r : RespW) (rest : List RespW) (hb : σ.bwd = r :: rest) :
    lastVal (respSt σ q' rest r.val) = lastVal σ := by
  unfold lastVal
  rw [hb]
  cases rest <;> rfl

/-- **every response in flight can be processed by the sender** (no ACK or NACK
    the receiver can have produced is refused by `processACK`), and afterwards
    the sender's cumulative counter is the value the last of them carried -/
theorem drain_bwd (m : Nat) : ∀ (σ : Uni), Inv σ → σ.bwd.length = m →
    ∃ σ', σ.run? (List.replicate m .bwdDeliver) = some σ' ∧ σ'.bwd = [] ∧ σ'.B = lastVal σ ∧
      σ'.R = σ.R ∧ σ'.T = σ.T ∧ σ'.log = σ.log ∧ σ'.fwd = σ.fwd ∧ σ'.out = σ.out ∧ σ'.n = σ.n := by
  induction m with
  | zero =>
    intro σ _ hm
    have hb : σ.bwd = [] := List.length_eq_zero_iff.mp hm
    exact ⟨σ, rfl, hb, by rw [lastVal, hb]; rfl, rfl, rfl, rfl, rfl, rfl, rfl⟩
  | succ m ih =>
    intro σ h hm
    obtain ⟨r, rest, hb⟩ := List.exists_cons_of_length_eq_add_one hm
    obtain ⟨q', hs⟩ := bwdDeliver_enabled σ h r rest hb
    rw [hb] at hm
    obtain ⟨σ', hr, h1, h2, h3⟩ := ih _ (inv_step h _ hs) (Nat.succ.inj hm)
    exact ⟨σ', (Uni.run_cons hs _).trans hr, h1, h2.trans (lastVal_respSt σ q' r rest hb), h3⟩

/-- **(1) settling**: under a reliable transport everything in flight is consumed —
    for every reachable state and every NACK choice of the receiver -/
theorem settle (σ : Uni) (h : Inv σ) (fl : List Bool) (hfl : fl.length = σ.fwd.length) :
    ∃ m σ', σ.run? (fl.map .fwdDeliver ++ List.replicate m .bwdDeliver) = some σ' ∧
      σ'.fwd = [] ∧ σ'.bwd = [] ∧ σ'.T = σ.T ∧ σ'.log = σ.log ∧ σ'.n = σ.n ∧ Inv σ' ∧
      m ≤ σ.bwd.length + σ.fwd.length := by
  obtain ⟨σ1, hr1, hf1, hT1, hl1, hn1, hlen1⟩ := drain_fwd σ.fwd.length σ fl h rfl hfl
  have hi1 := inv_run h _ hr1
  obtain ⟨σ2, hr2, hb2, _, _, hT2, hl2, hf2, _, hn2⟩ := drain_bwd σ1.bwd.length σ1 hi1 rfl
  exact ⟨σ1.bwd.length, σ2, (Uni.run_append hr1 _).trans hr2, hf2.trans hf1, hb2, hT2.trans hT1,
    hl2.trans hl1, hn2.trans hn1, inv_run hi1 _ hr2, hlen1⟩

/-- the sender re-offers the packets with absolute indices a, a+1, …, a+k-1 = T-1 -/
theorem retransmit_range (k : Nat) : ∀ (a : Nat) (σ : Uni), Inv σ → σ.B ≤ a → a + k = σ.T →
    ∃ σ', σ.run? ((List.range' a k).map .retransmit) = some σ' ∧
      σ'.fwd.map (·.idx) = σ.fwd.map (·.idx) ++ List.range' a k ∧
      σ'.R = σ.R ∧ σ'.T = σ.T ∧ σ'.B = σ.B ∧ σ'.log = σ.log ∧ σ'.bwd = σ.bwd ∧ σ'.n = σ.n := by
  induction k with
  | zero => intro a σ _ _ _; exact ⟨σ, rfl, (List.append_nil _).symm, rfl, rfl, rfl, rfl, rfl, rfl⟩
  | succ k ih =>
    intro a σ h hB hT
    have hw := h.win
    have hs : σ.step? (.retransmit a) =
        some { σ with fwd := σ.fwd ++ [⟨a % σ.q.s, σ.content (a % σ.q.s), a, σ.T⟩] } :=
      if_pos ⟨by omega, by omega⟩
    obtain ⟨σ', hr, h1, h2⟩ := ih (a + 1) _ (inv_step h _ hs) (Nat.le_succ_of_le hB)
      (by rw [← hT]; omega)
    refine ⟨σ', (Uni.run_cons hs _).trans hr, ?_, h2⟩
    rw [h1, List.map_append, List.append_assoc]
    rfl

theorem synced_rejectSt (σ : Uni) (rest : List DataW) (b : Bool) (h : Synced σ ∨ b = true) :
    Synced (rejectSt σ rest b) := by
  cases b
  · exact h.resolve_right Bool.noConfusion
  · exact lastVal_snoc (rejectSt σ rest true) σ.bwd _ rfl

/-- the receiver handles the re-offered copies a … a+k-1 in order: afterwards it
    has everything up to a+k, and the responses it produced end with its
    current count — provided it answered at all -/
theorem deliver_range (k : Nat) : ∀ (a : Nat) (σ : Uni) (fl : List Bool), Inv σ →
    σ.fwd.map (·.idx) = List.range' a k → fl.length = k → a ≤ σ.R → σ.R ≤ a + k →
    ∃ σ', σ.run? (fl.map .fwdDeliver) = some σ' ∧ σ'.fwd = [] ∧ σ'.R = a + k ∧ σ'.T = σ.T ∧
      σ'.B = σ.B ∧ σ'.log = σ.log ∧ σ'.n = σ.n ∧
      ((Synced σ ∨ σ.R < a + k ∨ fl.head? = some true) → Synced σ') ∧ σ'.bwd.length ≤ σ.bwd.length + k := by
  induction k with
  | zero =>
    intro a σ fl _ hf hfl h1 h2
    cases List.length_eq_zero_iff.mp hfl
    refine ⟨σ, rfl, List.map_eq_nil_iff.mp hf, Nat.le_antisymm h2 h1, rfl, rfl, rfl, rfl, ?_, Nat.le_refl _⟩
    rintro (hh | hh | hh)
    · exact hh
    · exact absurd h1 (Nat.not_le_of_lt hh)
    · cases hh
  | succ k ih =>
    intro a σ fl h hf hfl h1 h2
    obtain ⟨b, fl', rfl⟩ := List.exists_cons_of_length_eq_add_one hfl
    obtain ⟨d, rest, hfw, hidx, hrest⟩ := List.map_eq_cons_iff.mp hf
    have hacc := accept_iff h d (h.fwd_ok d (hfw ▸ List.mem_cons_self))
    rw [hidx] at hacc
    have hk : a + (k + 1) = a + 1 + k := Nat.add_right_comm a k 1
    rw [hk] at h2 ⊢
    by_cases ha : σ.R = a
    · -- the next packet: accepted, acknowledged
      have hs := step_accept σ d rest b hfw (hacc.mpr ha.symm)
      obtain ⟨σ', hr, g1, g2, g3, g4, g5, g6, g7, g8⟩ := ih (a + 1) _ fl' (inv_step h _ hs) hrest
        (Nat.succ.inj hfl) (Nat.succ_le_succ h1) (ha ▸ Nat.le_add_right (σ.R + 1) k)
      have hbl : (acceptSt σ d rest).bwd.length = σ.bwd.length + 1 := List.length_append
      exact ⟨σ', (Uni.run_cons hs _).trans hr, g1, g2, g3, g4, g5, g6,
        fun _ => g7 (Or.inl (lastVal_snoc (acceptSt σ d rest) σ.bwd _ rfl)), by omega⟩
    · -- an older copy: rejected, possibly NACKed
      have hs := step_reject σ d rest b hfw fun he => ha (hacc.mp he).symm
      obtain ⟨σ', hr, g1, g2, g3, g4, g5, g6, g7, g8⟩ := ih (a + 1) _ fl' (inv_step h _ hs) hrest
        (Nat.succ.inj hfl) (Nat.lt_of_le_of_ne h1 (Ne.symm ha)) h2
      have hbl := rejectSt_bwd_length σ rest b
      refine ⟨σ', (Uni.run_cons hs _).trans hr, g1, g2, g3, g4, g5, g6, ?_, by omega⟩
      rintro (hh | hh | hh)
      · exact g7 (Or.inl (synced_rejectSt σ rest b (Or.inl hh)))
      · exact g7 (Or.inr (Or.inl hh))
      · exact g7 (Or.inl (synced_rejectSt σ rest b (Or.inr (Option.some.inj hh))))

/-- **(2) one resend round completes the transfer.**  From every state the
    invariant allows in which the channels are empty (a stall candidate: data
    outstanding, nothing in flight), the round

      retransmit B … T-1 ; the receiver handles them in order ; the sender reads the responses

    is enabled, and leaves: every accepted message delivered, in order, exactly
    once (`out = accepted`), the send queue empty (`size = 0`, so the resend loop
    is silent from then on), nothing in flight.  `fl` is the receiver's NACK
    back-off (any), except that when it already had everything it answers the
    first copy. -/
theorem resend_round_completes (σ : Uni) (h : Inv σ) (hf : σ.fwd = []) (hb : σ.bwd = [])
    (fl : List Bool) (hfl : fl.length = σ.T - σ.B)
    (hnack : σ.R = σ.T → σ.B < σ.T → fl.head? = some true) :
    ∃ m σ', σ.run? ((List.range' σ.B (σ.T - σ.B)).map .retransmit ++ fl.map .fwdDeliver ++
                    List.replicate m .bwdDeliver) = some σ' ∧
      σ'.out = σ.accepted ∧ σ'.q.size = 0 ∧ σ'.fwd = [] ∧ σ'.bwd = [] ∧
      σ'.B = σ.T ∧ σ'.R = σ.T ∧ σ'.T = σ.T ∧ σ'.log = σ.log ∧ m ≤ σ.T - σ.B := by
  have hk : σ.B + (σ.T - σ.B) = σ.T := Nat.add_sub_cancel' h.B_le_T
  obtain ⟨σ1, hr1, e1, hR1, hT1, hB1, hl1, hb1, hn1⟩ := retransmit_range _ σ.B σ h (Nat.le_refl _) hk
  have hi1 := inv_run h _ hr1
  rw [hf] at e1
  obtain ⟨σ2, hr2, hf2, hR2, hT2, hB2, hl2, hn2, hsync, hlen2⟩ :=
    deliver_range _ σ.B σ1 fl hi1 e1 hfl (hR1 ▸ h.BR) (hR1 ▸ hk.symm ▸ h.RT)
  have hi2 := inv_run hi1 _ hr2
  have hsy2 : lastVal σ2 = σ2.R := hsync <| by
    rw [hR1, hk]
    rcases Nat.lt_or_eq_of_le h.RT with hlt | heq
    · exact Or.inr (Or.inl hlt)
    · rcases Nat.lt_or_eq_of_le h.B_le_T with hBT | hBT
      · exact Or.inr (Or.inr (hnack heq hBT))
      · refine Or.inl ?_
        rw [Synced, lastVal, hb1, hb, hB1, hR1, heq]
        exact hBT
  obtain ⟨σ3, hr3, hb3, hB3, hR3, hT3, hl3, hf3, _⟩ := drain_bwd σ2.bwd.length σ2 hi2 rfl
  have hi3 := inv_run hi2 _ hr3
  have hR3' : σ3.R = σ.T := hR3.trans (hR2.trans hk)
  have hT3' : σ3.T = σ.T := hT3.trans (hT2.trans hT1)
  have hB3' : σ3.B = σ.T := hB3.trans (hsy2.trans (hR2.trans hk))
  have hl3' : σ3.log = σ.log := hl3.trans (hl2.trans hl1)
  refine ⟨σ2.bwd.length, σ3, (Uni.run_append ((Uni.run_append hr1 _).trans hr2) _).trans hr3, ?_, ?_,
    hf3.trans hf2, hb3, hB3', hR3', hT3', hl3', ?_⟩
  · rw [hi3.out_eq, hR3', hl3', Uni.accepted, List.take_of_length_le (Nat.le_of_eq h.log_len)]
  · rw [size_eq hi3, hB3', hT3', Nat.sub_self]
  · rw [hb1, hb] at hlen2
    exact Nat.le_trans hlen2 (Nat.le_of_eq (Nat.zero_add _))

/-- every label of the recovery schedule is one a reliable transport produces -/
theorem round_reliable (B k m : Nat) (fl : List Bool) :
    ∀ l ∈ (List.range' B k).map Label.retransmit ++ fl.map Label.fwdDeliver ++ List.replicate m Label.bwdDeliver,
      reliable l = true := by
  intro l hl
  simp only [List.mem_append, List.mem_map, List.mem_replicate] at hl
  rcases hl with (⟨_, _, rfl⟩ | ⟨_, _, rfl⟩) | ⟨_, rfl⟩ <;> rfl

theorem recovery_of_inv (σ : Uni) (h : Inv σ) :
    ∃ ls σ', σ.run? ls = some σ' ∧ (∀ l ∈ ls, reliable l = true) ∧
      σ'.out = σ.accepted ∧ σ'.q.size = 0 ∧ σ'.fwd = [] ∧ σ'.bwd = [] ∧ σ'.log = σ.log ∧
      ls.length ≤ 2 * σ.fwd.length + σ.bwd.length + 3 * σ.n := by
  obtain ⟨m1, σ1, hr1, hf1, hb1, hT1, hl1, hn1, hi1, hm1⟩ :=
    settle σ h (List.replicate σ.fwd.length true) List.length_replicate
  -- one resend round in which the receiver answers every copy it is offered
  obtain ⟨m2, σ2, hr2, ho2, hq2, hf2, hb2, _, _, _, hl2, hm2⟩ :=
    resend_round_completes σ1 hi1 hf1 hb1 (List.replicate (σ1.T - σ1.B) true) List.length_replicate
      fun _ hlt => by rw [List.head?_replicate, if_neg (Nat.sub_ne_zero_of_lt hlt)]
  refine ⟨_ ++ _, σ2, (Uni.run_append hr1 _).trans hr2, ?_, ?_, hq2, hf2, hb2, hl2.trans hl1, ?_⟩
  · -- the settling schedule is a round without retransmissions
    exact List.forall_mem_append.mpr ⟨round_reliable 0 0 _ _, round_reliable _ _ _ _⟩
  · exact ho2.trans (congrArg (List.filter _) hl1)
  · have hk : σ1.T - σ1.B ≤ σ.n := hn1 ▸ Nat.sub_le_iff_le_add'.mpr hi1.win
    simp only [List.length_append, List.length_map, List.length_replicate, List.length_range']
    generalize σ1.T - σ1.B = k at hk hm2
    omega

/-- **C06, recovery (untimed): no reachable state is a silent stall.**  From
    every state the data phase can reach — after any history of sends, losses,
    duplications and delays, for every window size 1 ≤ n ≤ 254 — there is a
    schedule of nothing but retransmissions and in-order deliveries (no new
    sends, no drops, no duplicates) after which every message Send accepted has
    been handed to the peer's Recv, exactly once and in order, and the send
    queue is empty.  The schedule is short: at most two steps per packet in
    flight forward, one per response in flight, and three per window slot — so
    with a bound on the time one step takes (a resend timeout for the round to
    start, a latency per delivery) recovery takes bounded time. -/
theorem C06_recovery (n : Nat) (hn : 0 < n) (hn254 : n ≤ 254) (σ : Uni) (hr : Reachable n σ) :
    ∃ ls σ', σ.run? ls = some σ' ∧ (∀ l ∈ ls, reliable l = true) ∧
      σ'.out = σ.accepted ∧ σ'.q.size = 0 ∧ σ'.fwd = [] ∧ σ'.bwd = [] ∧ σ'.log = σ.log ∧
      ls.length ≤ 2 * σ.fwd.length + σ.bwd.length + 3 * σ.n :=
  recovery_of_inv σ (inv_reachable hn hn254 hr)

/-- **a blocked Send is released**: from every reachable state — in particular one
    whose window is full, so that `Send` blocks — the same kind of schedule leads
    to a state in which the send loop accepts the next message, whatever it is -/
theorem C06_send_unblocks (n : Nat) (hn : 0 < n) (hn254 : n ≤ 254) (σ : Uni) (hr : Reachable n σ) :
    ∃ ls σ', σ.run? ls = some σ' ∧ (∀ l ∈ ls, reliable l = true) ∧ ∀ p, (σ'.step? (.sendNew p)).isSome = true := by
  have h := inv_reachable hn hn254 hr
  obtain ⟨ls, σ', hrun, hrel, _, hq, _⟩ := recovery_of_inv σ h
  have hi := inv_run h ls hrun
  refine ⟨ls, σ', hrun, hrel, fun p => ?_⟩
  rw [Uni.step?, if_pos (hq ▸ hi.n_pos), addPacket_eq hi]
  rfl

/-! non-vacuity: a stalled state (two packets sent, both lost) and its recovery -/
def stalled : Option Uni :=
  (Uni.init 2).run? [.sendNew ⟨[1], true, false⟩, .sendNew ⟨[2], true, false⟩, .fwdDrop, .fwdDrop]

example : (stalled.map fun σ => (σ.fwd.length, σ.bwd.length, σ.B, σ.R, σ.T, σ.out.length)) = some (0, 0, 0, 0, 2, 0) := by
  decide

example : ((stalled.bind fun σ => σ.run? [.retransmit 0, .retransmit 1, .fwdDeliver true, .fwdDeliver true,
              .bwdDeliver, .bwdDeliver]).map fun σ => (σ.out.map (·.payload), σ.q.size, σ.B)) = some ([[1], [2]], 0, 2) := by
  decide

end Lnc.Props.C06
