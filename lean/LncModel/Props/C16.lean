import LncModel.Flush
/-
  C16 — Handshake and record framing do not depend on transport fragmentation;
  partial writes are resumed exactly.
-/
namespace Lnc.Props.C16
open Lnc Lnc.Mailbox.Flush

/-- the plaintext bytes pending before the write less those pending after it: the MAC is the last
    `macSize` bytes of the body -/
theorem reported_eq (start end_ : Nat) : reported start end_ = (start - macSize) - (end_ - macSize) := by
  unfold reported
  by_cases hs : start > macSize
  · by_cases he : end_ ≤ macSize
    · rw [if_pos ⟨hs, he⟩, Nat.sub_sub_sub_cancel_right he, Nat.sub_eq_zero_of_le he, Nat.sub_zero]
    · rw [if_neg (fun h => he h.2), if_pos ⟨hs, Nat.lt_of_not_le he⟩,
        Nat.sub_sub_sub_cancel_right (Nat.le_of_not_le he)]
  · rw [if_neg (fun h => hs h.1), if_neg (fun h => hs h.1), Nat.sub_eq_zero_of_le (Nat.le_of_not_lt hs),
      Nat.zero_sub]

theorem reported_spec (start end_ : Nat) (h : end_ ≤ start) :
    reported start end_ + (end_ - macSize) = start - macSize := by
  rw [reported_eq, Nat.sub_add_cancel (Nat.sub_le_sub_right h _)]

theorem flushOnce_eq (p : Pending) (b1 b2 : Nat) :
    flushOnce p b1 b2 =
      if b1 < p.hdr.length then ⟨{ p with hdr := p.hdr.drop b1 }, p.hdr.take b1, 0, true⟩
      else ⟨⟨[], p.body.drop b2⟩, p.hdr ++ p.body.take b2,
        p.plain - (p.body.length - b2 - macSize), decide (b2 < p.body.length)⟩ := by
  unfold flushOnce
  by_cases h : b1 < p.hdr.length
  · rw [if_pos h, Nat.min_eq_left (Nat.le_of_lt h), if_pos h]
  · rw [if_neg h, Nat.min_eq_right (Nat.le_of_not_lt h), if_neg (Nat.lt_irrefl _),
      ← List.drop_eq_drop_min, ← List.take_eq_take_min, reported_eq, Nat.min_comm, ← Nat.sub_eq_sub_min,
      decide_eq_decide.mpr (show min p.body.length b2 < p.body.length ↔ b2 < p.body.length by omega)]
    rfl

/-- one Flush call emits bytes in order from the front of the pending message -/
theorem flushOnce_conserve (p : Pending) (b1 b2 : Nat) :
    (flushOnce p b1 b2).out ++ ((flushOnce p b1 b2).p.hdr ++ (flushOnce p b1 b2).p.body) = p.hdr ++ p.body := by
  rw [flushOnce_eq]
  split
  · rw [← List.append_assoc, List.take_append_drop]
  · rw [List.nil_append, List.append_assoc, List.take_append_drop]

/-- the count it reports is exactly the plaintext bytes that left -/
theorem flushOnce_plain (p : Pending) (b1 b2 : Nat) :
    (flushOnce p b1 b2).nn + (flushOnce p b1 b2).p.plain = p.plain := by
  rw [flushOnce_eq]
  split
  · exact Nat.zero_add _
  · show _ + ((p.body.drop b2).length - macSize) = _
    rw [List.length_drop]
    exact Nat.sub_add_cancel (Nat.sub_le_sub_right (Nat.sub_le _ _) _)

/-- no error means nothing is left pending -/
theorem flushOnce_done (p : Pending) (b1 b2 : Nat) (he : (flushOnce p b1 b2).err = false) :
    (flushOnce p b1 b2).p.hdr = [] ∧ (flushOnce p b1 b2).p.body = [] := by
  rw [flushOnce_eq] at he ⊢
  split at he
  · cases he
  · rw [if_neg ‹_›]
    exact ⟨rfl, List.drop_of_length_le (Nat.le_of_not_lt (of_decide_eq_false he))⟩

/-- the body is not touched before the header is out -/
theorem flushOnce_header_first (p : Pending) (b1 b2 : Nat) (h : (flushOnce p b1 b2).p.hdr ≠ []) :
    (flushOnce p b1 b2).p.body = p.body := by
  rw [flushOnce_eq] at h ⊢
  split at h
  · rw [if_pos ‹_›]
  · exact absurd rfl h

theorem flushOnce_all (p : Pending) {b1 b2 : Nat} (h1 : p.hdr.length ≤ b1) (h2 : p.body.length ≤ b2) :
    flushOnce p b1 b2 = ⟨⟨[], []⟩, p.hdr ++ p.body, p.plain, false⟩ := by
  rw [flushOnce_eq, if_neg (Nat.not_lt.mpr h1), List.drop_of_length_le h2, List.take_of_length_le h2,
    Nat.sub_eq_zero_of_le h2, Nat.zero_sub, Nat.sub_zero, decide_eq_false (Nat.not_lt.mpr h2)]

theorem flushSeq_spec (p : Pending) (bs : List (Nat × Nat)) :
    (flushSeq p bs).out ++ ((flushSeq p bs).p.hdr ++ (flushSeq p bs).p.body) = p.hdr ++ p.body ∧
    (flushSeq p bs).nn + (flushSeq p bs).p.plain = p.plain := by
  induction bs generalizing p with
  | nil => exact ⟨List.nil_append _, Nat.zero_add _⟩
  | cons b rest ih =>
    obtain ⟨h1, h2⟩ := ih (flushOnce p b.1 b.2).p
    unfold flushSeq
    exact ⟨by rw [List.append_assoc, h1, flushOnce_conserve],
      by rw [Nat.add_assoc, h2, flushOnce_plain]⟩

/-- **Repeated flushing against a writer that accepts arbitrary partial amounts
    (and times out) emits exactly the pending bytes, once, and reports exactly
    the number of plaintext bytes** — for every payload size and every sequence
    of partial acceptances, followed by one call the writer accepts fully. -/
theorem flush_total (hdr body : Bytes) (bs : List (Nat × Nat)) :
    let r := flushSeq ⟨hdr, body⟩ bs
    let f := flushOnce r.p (hdr.length + body.length) (hdr.length + body.length)
    r.out ++ f.out = hdr ++ body ∧ r.nn + f.nn = body.length - macSize ∧
    f.p.hdr = [] ∧ f.p.body = [] ∧ f.err = false := by
  intro r f
  obtain ⟨hc, hn⟩ := flushSeq_spec ⟨hdr, body⟩ bs
  have hle := List.IsSuffix.length_le ⟨_, hc⟩
  rw [List.length_append, List.length_append] at hle
  have hf : f = _ :=
    flushOnce_all r.p (Nat.le_trans (Nat.le_add_right _ _) hle) (Nat.le_trans (Nat.le_add_left _ _) hle)
  rw [hf]
  exact ⟨hc, hn, rfl, rfl, rfl⟩

/-- **no new record can be started until the pending one is out** -/
theorem write_while_pending (p : Pending) (n : Nat) (h c : Bytes) (hn : n ≤ 65535)
    (hp : p.hdr ≠ [] ∨ p.body ≠ []) : writeMessage p n h c = .err "ErrMessageNotFlushed" := by
  unfold writeMessage
  rw [if_neg (Nat.not_lt.mpr hn), if_pos (hp.imp List.length_pos_iff.mpr List.length_pos_iff.mpr)]

/-- a flush with nothing pending writes nothing -/
theorem flush_nothing (b1 b2 : Nat) : flushOnce ⟨[], []⟩ b1 b2 = ⟨⟨[], []⟩, [], 0, false⟩ :=
  flushOnce_all ⟨[], []⟩ (Nat.zero_le _) (Nat.zero_le _)

/-! ### reads -/

theorem readFull_eq (k : Nat) (frs : List Bytes) :
    (readFull k frs).map (fun x => (x.1, x.2.flatten)) =
      if k ≤ frs.flatten.length then some (frs.flatten.take k, frs.flatten.drop k) else none := by
  fun_induction readFull k frs with
  | case1 frs => rfl
  | case2 k => rfl
  | case3 k f frs hk =>
    rw [List.flatten_cons, if_pos (Nat.le_trans hk (List.length_append ▸ Nat.le_add_right _ _)),
      List.take_append_of_le_length hk, List.drop_append_of_le_length hk]
    rfl
  | case4 k f frs hk b r hb ih =>
    have hf : f.length ≤ k + 1 := Nat.le_of_not_le hk
    rw [hb] at ih
    obtain ⟨h, e⟩ := Option.some_eq_ite_none_right.mp ih
    obtain ⟨hb, hr⟩ := Prod.mk.inj (Option.some.inj e)
    rw [List.flatten_cons, List.length_append, if_pos (Nat.sub_le_iff_le_add'.mp h), List.take_append,
      List.drop_append, List.take_of_length_le hf, List.drop_of_length_le hf, ← hb, ← hr]
    rfl
  | case5 k f frs hk hb ih =>
    rw [hb] at ih
    have h : ¬ k + 1 - f.length ≤ frs.flatten.length := fun h => nomatch ih.trans (if_pos h)
    rw [List.flatten_cons, List.length_append, if_neg (mt Nat.sub_le_iff_le_add'.mpr h)]
    rfl

/-- io.ReadFull's result is a function of the byte stream, not of how it is cut -/
theorem readFull_spec (k : Nat) (frs : List Bytes) :
    (k ≤ frs.flatten.length → ∃ r, readFull k frs = some (frs.flatten.take k, r) ∧ r.flatten = frs.flatten.drop k) ∧
    (frs.flatten.length < k → readFull k frs = none) := by
  have h := readFull_eq k frs
  refine ⟨fun hk => ?_, fun hk => ?_⟩
  · rw [if_pos hk] at h
    obtain ⟨⟨b, r⟩, hr, hx⟩ := Option.map_eq_some_iff.mp h
    obtain ⟨rfl, hd⟩ := Prod.mk.inj hx
    exact ⟨r, hr, hd⟩
  · rw [if_neg (Nat.not_le.mpr hk)] at h
    exact Option.map_eq_none_iff.mp h

/-- **record reads (ReadHeader / ReadBody use io.ReadFull) do not depend on how
    the transport fragments the stream** -/
theorem readFull_frag_independent (k : Nat) (frs frs' : List Bytes) (h : frs.flatten = frs'.flatten) :
    (readFull k frs).map (fun x => (x.1, x.2.flatten)) = (readFull k frs').map (fun x => (x.1, x.2.flatten)) := by
  rw [readFull_eq, readFull_eq, h]

def allFull (fields : List (Nat × Mode)) : Bool := fields.all fun f => f.2 == .full

/-- **a handshake whose every field is read with io.ReadFull parses the same
    fields whatever the fragmentation** -/
theorem readFields_frag_independent (fields : List (Nat × Mode)) (hf : allFull fields = true)
    (frs frs' : List Bytes) (h : frs.flatten = frs'.flatten) :
    readFields fields frs = readFields fields frs' := by
  induction fields generalizing frs frs' with
  | nil => rfl
  | cons f rest ih =>
    obtain ⟨k, m⟩ := f
    simp only [allFull, List.all_cons, Bool.and_eq_true, beq_iff_eq] at hf
    obtain ⟨rfl, hrest⟩ := hf
    unfold readFields
    by_cases hk : k ≤ frs.flatten.length
    · obtain ⟨r, h1, h2⟩ := (readFull_spec k frs).1 hk
      obtain ⟨r', h1', h2'⟩ := (readFull_spec k frs').1 (h ▸ hk)
      rw [h1, h1', h]
      exact congrArg (Option.map _) (ih hrest r r' (by rw [h2, h2', h]))
    · rw [(readFull_spec k frs).2 (Nat.lt_of_not_le hk), (readFull_spec k frs').2 (h ▸ Nat.lt_of_not_le hk)]

/-- with a bare Read the same bytes cut differently parse differently (the
    behaviour of the handshake readers before the repair) -/
theorem bare_read_depends_on_fragmentation :
    readFields [(1, .bare), (3, .bare)] [[9, 1, 2, 3]] ≠ readFields [(1, .bare), (3, .bare)] [[9, 1], [2, 3]] := by
  decide

/-! non-vacuity -/
example : readFull 3 [[1], [], [2, 3, 4], [5]] = some ([1, 2, 3], [[4], [5]]) := by decide
example : (flushSeq ⟨[1, 2, 3], [4, 5]⟩ [(2, 9), (0, 9), (9, 1)]).out = [1, 2, 3, 4] := by decide

end Lnc.Props.C16
