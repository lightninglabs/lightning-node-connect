import LncModel.Props.C15
/-
  C15, object reuse: a NoiseGrpcConn serves every connection of a session (it is
  the gRPC credentials object).  Its reader state is (pending remainder of the
  current record, records still to come).  A handshake starts a new connection:
  the records to come are the new connection's; `reset` says whether the pending
  remainder is dropped at that point (the code after repair d7f75ca) or kept
  (before).
-/
namespace Lnc.Props.C15
open Lnc Lnc.Mailbox.Stream

/-- the reader state with which the next connection starts -/
def nextConnection (reset : Bool) (old : RState) (records : List Bytes) : RState :=
  { pending := if reset then [] else old.pending, incoming := records }

/-- **with the reset, whatever the previous connection left unread, the reads of
    the new connection return exactly a prefix of what was written on the new
    connection** — for every state the old connection ended in, every record
    sequence and every sequence of buffer sizes -/
theorem reuse_clean (cap : Nat) (old : RState) (records : List Bytes) (ks : List Nat) :
    (readAll (grpcRead cap) ks (nextConnection true old records)).1.flatten <+: records.flatten :=
  (prefix_of_append_rest (grpc_stream cap ks (nextConnection true old records))).1

/-- without it the first read of the new connection hands out the old remainder -/
theorem reuse_without_reset_counterexample :
    ¬ ∀ (old : RState) (records : List Bytes) (ks : List Nat),
        (readAll (grpcRead 32768) ks (nextConnection false old records)).1.flatten <+: records.flatten := by
  intro h
  have := h ⟨[9, 9], []⟩ [[1]] [4]
  revert this
  decide

end Lnc.Props.C15
