import LncModel.Stream
/-
  C15 — Secured connections honour the net.Conn stream contract for any buffer
  size.
-/
namespace Lnc.Props.C15
open Lnc Lnc.Mailbox.Stream

theorem take_append_rest (n : Nat) (p : Bytes) (inc : List Bytes) :
    p.take n ++ RState.rest ⟨p.drop n, inc⟩ = p ++ inc.flatten := by
  rw [RState.rest, ← List.append_assoc, List.take_append_drop]

/-- NoiseGrpcConn.Read: never more than the buffer holds (nor than 32 KiB), and
    nothing is lost: what was returned plus what is still owed is what was owed. -/
theorem grpcRead_spec (cap k : Nat) (st st' : RState) (b : Bytes)
    (h : grpcRead cap k st = some (b, st')) :
    b.length ≤ k ∧ b.length ≤ cap ∧ b ++ st'.rest = st.rest := by
  -- both branches serve from some record `p`, with `inc` to come
  obtain ⟨p, inc, hp, h⟩ : ∃ p inc, p ++ inc.flatten = st.rest ∧
      some (p.take (min (min k cap) p.length), (⟨p.drop (min (min k cap) p.length), inc⟩ : RState)) = some (b, st') := by
    obtain ⟨pending, incoming⟩ := st
    cases pending with
    | cons x xs => exact ⟨x :: xs, incoming, rfl, h⟩
    | nil =>
      cases incoming with
      | nil => cases h
      | cons r rest => exact ⟨r, rest, rfl, h⟩
  cases h
  have hlen := Nat.le_trans (List.length_take_le _ p) (Nat.min_le_left (min k cap) p.length)
  exact ⟨Nat.le_trans hlen (Nat.min_le_left _ _), Nat.le_trans hlen (Nat.min_le_right _ _),
    hp ▸ take_append_rest _ p inc⟩

theorem bufRefill_spec (k : Nat) (inc : List Bytes) (st' : RState) (b : Bytes)
    (h : bufRefill k inc = some (b, st')) :
    b.length ≤ k ∧ b ++ st'.rest = inc.flatten ∧ (1 ≤ k → b ≠ []) := by
  fun_induction bufRefill k inc with
  | case1 => cases h
  | case2 rest ih => exact ih h
  | case3 x xs rest =>
    cases h
    refine ⟨List.length_take_le _ _, take_append_rest _ _ _, fun hk => ?_⟩
    obtain ⟨k, rfl⟩ := Nat.exists_eq_add_of_le' hk
    exact List.cons_ne_nil _ _

theorem bufRead_eq_bufRefill (k : Nat) (st : RState) :
    bufRead k st = bufRefill k (st.pending :: st.incoming) := by
  unfold bufRead
  cases st.pending <;> rfl

/-- NoiseConn.Read / connKit.Read: at most the buffer size, nothing lost, and
    with a non-empty buffer never an empty result (no spurious EOF on an empty
    record). -/
theorem bufRead_spec (k : Nat) (st st' : RState) (b : Bytes) (h : bufRead k st = some (b, st')) :
    b.length ≤ k ∧ b ++ st'.rest = st.rest ∧ (1 ≤ k → b ≠ []) :=
  bufRefill_spec k (st.pending :: st.incoming) st' b (bufRead_eq_bufRefill k st ▸ h)

def AllLe : List Bytes → List Nat → Prop
  | [], _ => True
  | b :: bs, k :: ks => b.length ≤ k ∧ AllLe bs ks
  | _ :: _, [] => False

/-- **any sequence of read-buffer sizes**: the concatenation of everything read,
    followed by what is still owed, is exactly what was owed — no byte lost,
    duplicated or reordered; and every Read respects its buffer. -/
theorem readAll_spec (rd : Nat → RState → Option (Bytes × RState))
    (hrd : ∀ k st b st', rd k st = some (b, st') → b.length ≤ k ∧ b ++ st'.rest = st.rest)
    (ks : List Nat) (st : RState) :
    (readAll rd ks st).1.flatten ++ (readAll rd ks st).2.rest = st.rest ∧
    AllLe (readAll rd ks st).1 ks := by
  induction ks generalizing st with
  | nil => exact ⟨rfl, trivial⟩
  | cons k ks ih =>
    unfold readAll
    rcases h : rd k st with _ | ⟨b, st'⟩
    · exact ⟨rfl, trivial⟩
    · obtain ⟨h1, h2⟩ := hrd k st b st' h
      obtain ⟨i1, i2⟩ := ih st'
      exact ⟨by rw [List.flatten_cons, List.append_assoc, i1, h2], h1, i2⟩

theorem grpc_stream (cap : Nat) (ks : List Nat) (st : RState) :
    (readAll (grpcRead cap) ks st).1.flatten ++ (readAll (grpcRead cap) ks st).2.rest = st.rest :=
  (readAll_spec (grpcRead cap) (fun k st b st' h => (grpcRead_spec cap k st st' b h).imp_right And.right) ks st).1

theorem buf_stream (ks : List Nat) (st : RState) :
    (readAll bufRead ks st).1.flatten ++ (readAll bufRead ks st).2.rest = st.rest :=
  (readAll_spec bufRead (fun k st b st' h => (bufRead_spec k st st' b h).imp_right And.left) ks st).1

/-! writers -/

theorem tcpChunks_spec (fuel : Nat) (b : Bytes) (hf : b.length < fuel) :
    (tcpChunks fuel b).flatten = b ∧ ∀ r ∈ tcpChunks fuel b, r.length ≤ maxRecord ∧ r ≠ [] := by
  fun_induction tcpChunks fuel b with
  | case1 => cases hf
  | case2 fuel b hle hb => exact ⟨(List.isEmpty_iff.mp hb).symm, nofun⟩
  | case3 fuel b hle hb =>
    exact ⟨List.append_nil b, List.forall_mem_singleton.mpr ⟨hle, mt List.isEmpty_iff.mpr hb⟩⟩
  | case4 fuel b hgt ih =>
    have hpos : 0 < maxRecord := by decide
    obtain ⟨h1, h2⟩ := ih (by rw [List.length_drop]; omega)
    refine ⟨by rw [List.flatten_cons, h1, List.take_append_drop],
      List.forall_mem_cons.mpr ⟨⟨List.length_take_le _ _, fun he => ?_⟩, h2⟩⟩
    rcases List.take_eq_nil_iff.mp he with h | rfl
    · cases h
    · exact hgt (Nat.zero_le _)

/-- **NoiseConn.Write: a write larger than one record is chunked transparently** -/
theorem tcp_write_chunks (b : Bytes) :
    (tcpWrite b).1.flatten = b ∧ (tcpWrite b).2 = b.length ∧ ∀ r ∈ (tcpWrite b).1, r.length ≤ maxRecord := by
  unfold tcpWrite
  by_cases h : b.length ≤ maxRecord
  · rw [if_pos h]
    exact ⟨List.append_nil b, rfl, List.forall_mem_singleton.mpr h⟩
  · rw [if_neg h]
    obtain ⟨h1, h2⟩ := tcpChunks_spec (b.length + 1) b (Nat.lt_succ_self _)
    exact ⟨h1, rfl, fun r hr => (h2 r hr).1⟩

/-- **NoiseGrpcConn.Write: larger than one record is rejected, never truncated** -/
theorem grpc_write_rejects (b : Bytes) :
    (b.length ≤ maxRecord → grpcWrite b = .ok ([b], b.length)) ∧
    (b.length > maxRecord → grpcWrite b = .err "ErrMaxMessageLengthExceeded") :=
  ⟨fun h => if_neg (Nat.not_lt.mpr h), fun h => if_pos h⟩

theorem prefix_of_append_rest {read rest owed : Bytes} (h : read ++ rest = owed) :
    read <+: owed ∧ (rest = [] → read = owed) :=
  ⟨⟨rest, h⟩, fun hr => by rw [← h, hr, List.append_nil]⟩

/-- **C15 end to end (TCP variant / connKit)**: for any sequence of writes and any
    sequence of read-buffer sizes the bytes read are a prefix of the bytes
    written, and equal once the reader has drained everything. -/
theorem C15_tcp (writes : List Bytes) (ks : List Nat) :
    let records := writes.flatMap fun w => (tcpWrite w).1
    let res := readAll bufRead ks ⟨[], records⟩
    res.1.flatten <+: writes.flatten ∧ (res.2.rest = [] → res.1.flatten = writes.flatten) := by
  intro records res
  have hrec : records.flatten = writes.flatten := by
    show (writes.flatMap fun w => (tcpWrite w).1).flatten = writes.flatten
    induction writes with
    | nil => rfl
    | cons w ws ih => rw [List.flatMap_cons, List.flatten_append, List.flatten_cons, ih, (tcp_write_chunks w).1]
  exact prefix_of_append_rest (hrec ▸ buf_stream ks ⟨[], records⟩)

/-- **C15 end to end (gRPC variant)**: every accepted write is one record; bytes
    read are a prefix of bytes written, equal when drained. -/
theorem C15_grpc (cap : Nat) (writes : List Bytes) (ks : List Nat) :
    let res := readAll (grpcRead cap) ks ⟨[], writes⟩
    res.1.flatten <+: writes.flatten ∧ (res.2.rest = [] → res.1.flatten = writes.flatten) :=
  prefix_of_append_rest (grpc_stream cap ks ⟨[], writes⟩)

/-! non-vacuity: a 10-byte record read through a 4-byte buffer; an empty record in mid-stream -/
example : (readAll (grpcRead 32768) [4, 4, 4, 4] ⟨[], [[1, 2, 3, 4, 5, 6, 7, 8, 9, 10], [11]]⟩).1
    = [[1, 2, 3, 4], [5, 6, 7, 8], [9, 10], [11]] := by decide
example : (readAll bufRead [3, 3, 3] ⟨[], [[1, 2], [], [3, 4, 5, 6]]⟩).1 = [[1, 2], [3, 4, 5], [6]] := by decide

end Lnc.Props.C15
