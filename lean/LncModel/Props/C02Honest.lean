import LncModel.Record
/-
  C02, the other half: when nobody interferes, the reader returns *every*
  record the peer wrote, in order (the prefix of C02_prefix is the whole list).
-/
namespace Lnc.Props.C02
open Lnc Lnc.Mailbox.Record

/-- the honest wire bytes of records `j, j+1, …` given their plaintexts -/
def honestFrom (dir : Nat) : Nat → List Bytes → List SByte
  | _, [] => []
  | j, p :: ps => unitBytes dir (2 * j) hdrLen ++ unitBytes dir (2 * j + 1) (p.length + macSize) ++ honestFrom dir (j + 1) ps

theorem unitBytes_length (dir use len : Nat) : (unitBytes dir use len).length = len := by
  simp [unitBytes]

/-- honest bytes contain no pause mark -/
theorem pauseAt_unit (dir use len n : Nat) (rest : List SByte) (hn : n = len) :
    pauseAt n (unitBytes dir use len ++ rest) = none := by
  subst hn
  unfold pauseAt
  rw [List.take_left' (unitBytes_length _ _ _), List.findIdx?_eq_none_iff]
  intro x hx
  obtain ⟨i, _, rfl⟩ := List.mem_map.mp hx
  rfl

theorem eq_unit_of_opens {recs : List Bytes} {dir use : Nat} {u : List SByte}
    (h : opens recs dir use u = true) : u = unitBytes dir use u.length := by
  unfold opens at h
  split at h
  · cases h
  · cases of_decide_eq_true h
    rw [unitBytes_length]

theorem unitLen_header {recs : List Bytes} {j : Nat} {p : Bytes} (hp : recs[j]? = some p) :
    unitLen recs (2 * j) = some hdrLen := by
  unfold unitLen
  rw [Nat.mul_div_cancel_left j (by decide), hp]
  exact if_pos (Nat.mul_mod_right 2 j)

theorem unitLen_body {recs : List Bytes} {j : Nat} {p : Bytes} (hp : recs[j]? = some p) :
    unitLen recs (2 * j + 1) = some (p.length + macSize) := by
  unfold unitLen
  rw [Nat.mul_add_div (by decide), Nat.div_eq_of_lt (by decide), Nat.add_zero, hp]
  exact if_neg (by rw [Nat.mul_add_mod]; decide)

theorem opens_unit {recs : List Bytes} {use len : Nat} (dir : Nat) (h : unitLen recs use = some len) :
    opens recs dir use (unitBytes dir use len) = true := by
  unfold opens
  rw [h]
  exact decide_eq_true rfl

theorem readMessage_accepts (recs : List Bytes) (r : Reader) (p : Bytes) (u0 u1 rest : List SByte)
    (hf : r.failed = false) (hp : recs[r.use / 2]? = some p)
    (hl0 : u0.length = hdrLen) (hl1 : u1.length = p.length + macSize)
    (ho0 : opens recs r.dir r.use u0 = true) (ho1 : opens recs r.dir (r.use + 1) u1 = true) :
    readMessage recs r (u0 ++ (u1 ++ rest)) = (.ok (r.use / 2), { r with use := r.use + 2 }, rest) := by
  have nopause {use : Nat} {u : List SByte} (rest : List SByte) (h : opens recs r.dir use u = true) :
      pauseAt u.length (u ++ rest) = none := by
    rw [eq_unit_of_opens h, unitBytes_length]
    exact pauseAt_unit _ _ _ _ _ rfl
  unfold readMessage
  rw [if_neg (hf ▸ Bool.false_ne_true), ← hl0, nopause _ ho0]
  dsimp only
  rw [if_neg (by simp), List.take_left, ho0, if_neg (by simp), hp]
  dsimp only
  rw [List.drop_left, ← hl1, nopause _ ho1]
  dsimp only
  rw [if_neg (by simp), List.take_left, ho1, if_pos rfl, List.drop_left]

theorem readMessage_honest (recs : List Bytes) (dir j : Nat) (p : Bytes) (rest : List SByte)
    (hp : recs[j]? = some p) :
    readMessage recs ⟨dir, 2 * j, false⟩
        (unitBytes dir (2 * j) hdrLen ++ unitBytes dir (2 * j + 1) (p.length + macSize) ++ rest) =
      (.ok j, ⟨dir, 2 * j + 2, false⟩, rest) := by
  have hdiv : 2 * j / 2 = j := Nat.mul_div_cancel_left j (by decide)
  have h := readMessage_accepts recs ⟨dir, 2 * j, false⟩ p _ _ rest rfl (hdiv.symm ▸ hp)
    (unitBytes_length _ _ _) (unitBytes_length _ _ _)
    (opens_unit dir (unitLen_header hp)) (opens_unit dir (unitLen_body hp))
  rw [List.append_assoc, h, hdiv]

/-- **an undisturbed stream is read completely**: with enough calls, the reader
    returns records `j, j+1, …, n-1` in order and no error -/
theorem readLoop_honest (recs : List Bytes) (dir : Nat) (ps : List Bytes) (j fuel : Nat)
    (hrecs : ∀ i, i < ps.length → recs[j + i]? = ps[i]?) (hfuel : ps.length ≤ fuel) :
    readLoop recs fuel ⟨dir, 2 * j, false⟩ (honestFrom dir j ps) = (List.range' j ps.length).map Res.ok := by
  induction ps generalizing j fuel with
  | nil => cases fuel <;> rfl
  | cons p ps ih =>
    cases fuel with
    | zero => cases hfuel
    | succ fuel =>
      have ih' := ih (j + 1) fuel
        (fun i hi => by rw [Nat.add_assoc, Nat.add_comm 1 i]; exact hrecs (i + 1) (Nat.succ_lt_succ hi))
        (Nat.le_of_succ_le_succ hfuel)
      unfold readLoop
      rw [if_neg (by exact Bool.false_ne_true), honestFrom,
        readMessage_honest recs dir j p _ (hrecs 0 (Nat.succ_pos _))]
      exact congrArg (Res.ok j :: ·) ih'

theorem oks_map_ok (l : List Nat) : oks (l.map Res.ok) = l := by
  induction l with
  | nil => rfl
  | cons x xs ih => exact congrArg (x :: ·) ih

/-- **C02, honest completeness**: the records returned on the undisturbed wire
    are exactly all records written, in order -/
theorem C02_honest_complete (recs : List Bytes) (dir fuel : Nat) (hfuel : recs.length ≤ fuel) :
    oks (readLoop recs fuel ⟨dir, 0, false⟩ (honestFrom dir 0 recs)) = List.range recs.length := by
  have := readLoop_honest recs dir recs 0 fuel (fun i _ => by simp) hfuel
  rw [Nat.mul_zero] at this
  rw [this, oks_map_ok, List.range_eq_range']

example : oks (readLoop [[1, 2], [], [3]] 5 ⟨0, 0, false⟩ (honestFrom 0 0 [[1, 2], [], [3]])) = [0, 1, 2] := by decide +kernel

end Lnc.Props.C02
