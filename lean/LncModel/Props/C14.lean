import LncModel.Chunk
/-
  C14 — Message boundaries and contents survive chunking for every size.
-/
namespace Lnc.Props.C14
open Lnc Lnc.Gbn

theorem reassemble_splitLoop (m : Nat) (hm : 0 < m) (fuel : Nat) (data acc : Bytes)
    (rest : List Pkt) (hf : data.length < fuel) :
    reassembleOut (splitLoop m fuel data ++ rest) acc = (acc ++ data) :: reassembleOut rest [] := by
  fun_induction splitLoop m fuel data generalizing acc with
  | case1 => nomatch hf
  | case2 => rfl
  | case3 fuel data hlen ih =>
    have hd : (data.drop m).length < fuel := by
      rw [List.length_drop]
      omega
    exact (ih _ hd).trans (by rw [List.append_assoc, List.take_append_drop])

/-- a message followed by anything reassembles to that message followed by the rest -/
theorem reassemble_split_append (m : Nat) (data : Bytes) (rest : List Pkt) :
    reassembleOut (split m data ++ rest) [] = data :: reassembleOut rest [] := by
  unfold split
  split
  · rfl
  · next hm => exact reassemble_splitLoop m (Nat.pos_of_ne_zero hm) _ data [] rest (Nat.lt_succ_self _)

/-- **every payload length (empty, one byte, multiples and non-multiples of the
    chunk size) and every chunk size or none: one Send ⇒ exactly one Recv
    result with identical bytes** -/
theorem reassemble_split (m : Nat) (data : Bytes) :
    reassembleOut (split m data) [] = [data] := by
  rw [← List.append_nil (split m data)]
  exact reassemble_split_append m data []

/-- **consecutive messages are never merged, split or dropped** -/
theorem reassemble_msgs (m : Nat) (msgs : List Bytes) :
    reassembleOut (msgs.flatMap (split m)) [] = msgs := by
  induction msgs with
  | nil => rfl
  | cons d ds ih => rw [List.flatMap_cons, reassemble_split_append, ih]

theorem splitLoop_sizes (m : Nat) (hm : 0 < m) (fuel : Nat) (data : Bytes) :
    ∀ p ∈ splitLoop m fuel data, p.payload.length ≤ m ∧ p.ping = false := by
  fun_induction splitLoop m fuel data with
  | case1 => exact nofun
  | case2 fuel data h => exact List.forall_mem_cons.mpr ⟨⟨h, rfl⟩, nofun⟩
  | case3 fuel data h ih => exact List.forall_mem_cons.mpr ⟨⟨List.length_take_le .., rfl⟩, ih⟩

/-- with chunking on no packet carries more than `maxChunk` bytes -/
theorem split_sizes (m : Nat) (hm : 0 < m) (data : Bytes) :
    ∀ p ∈ split m data, p.payload.length ≤ m := by
  rw [split, if_neg (Nat.ne_of_gt hm)]
  exact fun p hp => (splitLoop_sizes m hm _ data p hp).1

/-- reassembly of a prefix of the packet stream is a prefix of the reassembly:
    composes with C01 (`out <+: accepted`) to give the message-level statement -/
theorem reassemble_prefix (l1 l2 : List Pkt) (acc : Bytes) (h : l1 <+: l2) :
    reassembleOut l1 acc <+: reassembleOut l2 acc := by
  obtain ⟨t, rfl⟩ := h
  induction l1 generalizing acc with
  | nil => exact List.nil_prefix
  | cons p ps ih =>
    simp only [List.cons_append, reassembleOut]
    split
    · exact List.prefix_cons_inj _ |>.mpr (ih [])
    · exact ih _

/-- **C01 + C14**: if the receiver was handed a prefix of the packets of the
    messages accepted by Send, its Recv results are a prefix of those messages. -/
theorem C14_with_C01 (m : Nat) (msgs : List Bytes) (out : List Pkt)
    (h : out <+: msgs.flatMap (split m)) : reassembleOut out [] <+: msgs :=
  reassemble_msgs m msgs ▸ reassemble_prefix out _ [] h

/-! ### deadlines -/

theorem recvCall_spec (b : Nat) (st : RecvState) :
    ∀ st' r, recvCall b st = (st', r) →
      reassembleOut st.pending st.acc = (match r with | some m => [m] | none => []) ++ reassembleOut st'.pending st'.acc := by
  fun_induction recvCall b st with
  | case1 | case2 =>
    rintro _ _ ⟨⟩
    rfl
  | case3 b st p ps hp hf =>
    rintro _ _ ⟨⟩
    rw [hp, reassembleOut, if_pos hf]
    rfl
  | case4 b st p ps hp hf ih =>
    rw [hp, reassembleOut, if_neg hf]
    exact ih

/-- **Recv deadlines expiring at any point inside a message, calls retried:**
    the successful Recv results are always a prefix of the reassembly of the
    packet stream — a timed-out call never loses, merges or splits data. -/
theorem recv_deadlines (budgets : List Nat) (st : RecvState) :
    recvCalls budgets st <+: reassembleOut st.pending st.acc := by
  fun_induction recvCalls budgets st with
  | case1 => exact List.nil_prefix
  | case2 b bs st st' m h ih =>
    rw [recvCall_spec b st st' (some m) h]
    exact (List.prefix_cons_inj _).mpr ih
  | case3 b bs st st' h ih =>
    rw [recvCall_spec b st st' none h]
    exact ih

/-- The full statement also covers *Send* deadlines.  It is false of the code:
    a Send that times out after `k` chunks leaves them sent; the retried Send
    then yields one Recv result that is not the payload.  Witness (replayed on
    the real connection by the harness): maxChunk 4, payload of 8 bytes, deadline
    after the first chunk. -/
def C14_send_deadline_statement : Prop :=
  ∀ (m k : Nat) (data : Bytes),
    reassembleOut (splitTimedOut m k data ++ split m data) [] = [data]

theorem C14_send_deadline_counterexample : ¬ C14_send_deadline_statement := by
  intro h
  have := h 4 1 [1, 2, 3, 4, 5, 6, 7, 8]
  revert this
  decide

/-! non-vacuity -/
example : split 4 [1, 2, 3, 4, 5, 6, 7, 8, 9] =
    [⟨[1, 2, 3, 4], false, false⟩, ⟨[5, 6, 7, 8], false, false⟩, ⟨[9], true, false⟩] := by decide
example : split 4 [] = [⟨[], true, false⟩] := by decide
example : split 4 [1, 2, 3, 4] = [⟨[1, 2, 3, 4], true, false⟩] := by decide
example : recvCalls [1, 1, 5] ⟨split 2 [1, 2, 3, 4, 5] ++ split 2 [6], []⟩ = [[1, 2, 3, 4, 5]] := by decide

end Lnc.Props.C14
