import LncModel.Ticker
/-
  C18 — Concurrent use is free of close-of-closed-channel panics and
  lock-order deadlocks (the discipline part; data races proper are searched
  with the race detector, see DESIGN.md).
-/
namespace Lnc.Props.C18
open Lnc.Gbn.Ticker

/-- invariant of the guarded protocol -/
def Inv (s : St) : Prop :=
  s.guarded = true ∧ s.panicked = false ∧
  ((s.lock = false ∧ s.before = 0 ∧ s.after = 0 ∧ s.quitOpen = true) ∨
   (s.lock = true ∧ s.before = 1 ∧ s.after = 0 ∧ s.quitOpen = true) ∨
   (s.lock = true ∧ s.before = 0 ∧ s.after = 1 ∧ s.quitOpen = false))

theorem inv_step (s s' : St) (x : Step) (h : Inv s) (hs : s.step x = some s') : Inv s' := by
  obtain ⟨g, l, q, b, a, p⟩ := s
  -- the invariant leaves three states; every step from each of them is computed
  obtain ⟨rfl, rfl, ⟨rfl, rfl, rfl, rfl⟩ | ⟨rfl, rfl, rfl, rfl⟩ | ⟨rfl, rfl, rfl, rfl⟩⟩ := h <;>
    cases x <;> cases hs <;> (unfold Inv; decide)

theorem inv_run (xs : List Step) (a b : St) (ha : Inv a) (hr : a.run xs = some b) : Inv b := by
  fun_induction St.run a xs with
  | case1 a => exact Option.some.inj hr ▸ ha
  | case2 a x xs a' hx ih => exact ih (inv_step a a' x ha hx) hr
  | case3 a x xs hx => cases hr

/-- **with Reset/Stop serialised by a mutex no interleaving of any number of
    callers closes the quit channel twice**, and between calls the channel is
    open with nobody inside -/
theorem reset_serialised_safe (xs : List Step) (s : St) (h : (St.init true).run xs = some s) :
    s.panicked = false ∧ (s.lock = false → s.quitOpen = true ∧ s.before = 0 ∧ s.after = 0) := by
  obtain ⟨_, hp, hc⟩ := inv_run xs _ s ⟨rfl, rfl, .inl ⟨rfl, rfl, rfl, rfl⟩⟩ h
  refine ⟨hp, fun hl => ?_⟩
  rcases hc with ⟨_, hb, ha, hq⟩ | ⟨hl', _⟩ | ⟨hl', _⟩
  · exact ⟨hq, hb, ha⟩
  · cases hl.symm.trans hl'
  · cases hl.symm.trans hl'

/-- **without the mutex two callers can close the channel twice** (the schedule
    the race-detector runs reproduce on the pre-repair code: send loop's ping
    branch and receive loop both inside Reset) -/
theorem reset_unguarded_counterexample :
    ((St.init false).run [.enter, .enter, .closeQuit, .closeQuit]).map (·.panicked) = some true := by decide

/-- an acyclic acquisition order admits no cyclic wait (stated on the graph:
    no lock reaches itself) -/
theorem acyclic_no_self_reach (edges : List (String × String)) (h : acyclic edges = true) (v : String)
    (hv : v ∈ (edges.map (·.1)).eraseDups) :
    (reach edges edges.length (succs edges v)).contains v = false := by
  simp only [acyclic, List.all_eq_true, Bool.not_eq_eq_eq_not, Bool.not_true] at h
  exact h v hv

example : acyclic [("a", "b"), ("b", "c"), ("a", "c")] = true := by decide
example : acyclic [("a", "b"), ("b", "c"), ("c", "a")] = false := by decide

end Lnc.Props.C18
