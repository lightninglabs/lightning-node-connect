import LncModel.Proofs.NoiseLemmas
/-
  C04, general part: for ALL keys, passphrases, payloads, version ranges and
  ALL rewrites of the earlier fields by the man in the middle — whoever accepts
  an act whose final ciphertext is the one its peer sealed holds the same
  transcript digest and the same cipher key as that peer.
-/
namespace Lnc.Props.C04
open Lnc Lnc.Mailbox.Noise

theorem encryptAndHash_spec (st : St) (pl : Pl) :
    ∃ c : Ct, (encryptAndHash st pl).2 = .hon c ∧ c.ad = st.h ∧ c.key = st.key ∧ c.nonce = st.n ∧ c.pl = pl ∧
      (encryptAndHash st pl).1.h = st.h ++ [.ct c.id] ∧ (encryptAndHash st pl).1.key = st.key ∧
      (encryptAndHash st pl).1.ck = st.ck ∧ (encryptAndHash st pl).1.initiator = st.initiator :=
  ⟨_, rfl, rfl, rfl, rfl, rfl, rfl, rfl, rfl, rfl⟩

theorem decryptAndHash_spec (st st' : St) (w : WCt) (pl : Pl) (h : decryptAndHash st w = .ok (st', pl)) :
    ∃ c : Ct, w = .hon c ∧ c.ad = st.h ∧ c.key = st.key ∧ c.nonce = st.n ∧ c.pl = pl ∧
      st'.h = st.h ++ [.ct c.id] ∧ st'.key = st.key ∧ st'.ck = st.ck ∧ st'.initiator = st.initiator := by
  obtain ⟨c, hw, hkey, hn, had, hpl, rfl⟩ := decryptAndHash_ok h
  exact ⟨c, hw, had, hkey, hn, hpl, rfl, rfl, rfl, rfl⟩

/-! ### the cipher key in use is the chaining key -/

def KeyCk (st : St) : Prop := st.key = st.ck

theorem mixKey_keyck (st : St) (s : Sec) : KeyCk (mixKey st s) := rfl

theorem dhToken_keyck (st st' : St) (t : Token) (h : dhToken st t = .ok st') : KeyCk st' := by
  obtain ⟨s, rfl⟩ := dhToken_ok h
  exact mixKey_keyck st s

theorem decryptAndHash_keyck {st st' : St} {w : WCt} {pl : Pl} (hk : KeyCk st)
    (h : decryptAndHash st w = .ok (st', pl)) : KeyCk st' := by
  obtain ⟨_, _, _, _, _, _, rfl⟩ := decryptAndHash_ok h
  exact hk

theorem writeTokens_keyck (ts : List Token) (st st' : St) (out out' : List Field) (hk : KeyCk st)
    (h : writeTokens ts st out = .ok (st', out')) : KeyCk st' := by
  induction ts generalizing st out with
  | nil =>
    cases h
    exact hk
  | cons t ts ih =>
    cases t with
    | e | me | s =>
      -- these tokens leave `key` and `ck` alone, so `KeyCk` of the next state is `hk` itself
      refine ih _ _ ?_ h
      exact hk
    | ee | es | se | ss =>
      obtain ⟨st1, h1, h⟩ := bind_eq_ok h
      exact ih _ _ (dhToken_keyck _ _ _ h1) h

theorem dhToken_fields (st st' : St) (t : Token) (h : dhToken st t = .ok st') : True := trivial

theorem readTokens_ok {ts : List Token} {st st' : St} {inp rest : List Field}
    (h : readTokens ts st inp = .ok (st', rest)) : (∃ pre, inp = pre ++ rest) ∧ (KeyCk st → KeyCk st') := by
  induction ts generalizing st inp with
  | nil =>
    cases h
    exact ⟨⟨[], rfl⟩, id⟩
  | cons t ts ih =>
    cases t with
    | e | me =>
      simp only [readTokens] at h
      split at h
      · obtain ⟨⟨pre, rfl⟩, hk⟩ := ih h
        exact ⟨⟨_ :: pre, rfl⟩, hk⟩
      · cases h
    | s =>
      simp only [readTokens] at h
      split at h
      · obtain ⟨⟨st1, pl⟩, hd, h⟩ := bind_eq_ok h
        cases pl with
        | static p =>
          obtain ⟨⟨pre, rfl⟩, hk⟩ := ih h
          have hk1 : KeyCk st → KeyCk st1 := fun k => decryptAndHash_keyck k hd
          exact ⟨⟨_ :: pre, rfl⟩, fun k => hk (hk1 k)⟩
        | empty | len | bytes | fixed500 => cases h
      · cases h
    | ee | es | se | ss =>
      obtain ⟨st1, h1, h⟩ := bind_eq_ok h
      exact ⟨(ih h).1, fun _ => (ih h).2 (dhToken_keyck _ _ _ h1)⟩

theorem readTokens_suffix (ts : List Token) (st st' : St) (inp rest : List Field)
    (h : readTokens ts st inp = .ok (st', rest)) : ∃ pre, inp = pre ++ rest :=
  (readTokens_ok h).1

theorem readTokens_keyck (ts : List Token) (st st' : St) (inp rest : List Field) (hk : KeyCk st)
    (h : readTokens ts st inp = .ok (st', rest)) : KeyCk st' :=
  (readTokens_ok h).2 hk

/-- the last thing `writeMsg` does is to seal a ciphertext over its running digest;
    that ciphertext is the last field on the wire -/
theorem writeMsg_last (w w' : St) (mp : MsgPattern) (fields : List Field)
    (h : writeMsg w mp = .ok (w', fields)) :
    ∃ (pre : St) (c : Ct), fields.getLast? = some (.ct (.hon c)) ∧ c.ad = pre.h ∧ c.key = pre.key ∧
      w'.h = pre.h ++ [.ct c.id] ∧ w'.key = pre.key ∧ w'.ck = pre.ck := by
  obtain ⟨st, out, _, pre, pl, rfl, hf⟩ := writeMsg_ok h
  obtain ⟨c, hc, had, hkey, _, _, hh, hk, hck, _⟩ := encryptAndHash_spec pre pl
  refine ⟨pre, c, ?_, had, hkey, hh, hk, hck⟩
  rcases hf with ⟨rfl, rfl, _⟩ | ⟨_, _, _, rfl⟩
  · rw [List.getLast?_append, hc]
    rfl
  · rw [List.getLast?_append, hc]
    rfl

theorem writeMsg_keyck (w w' : St) (mp : MsgPattern) (fields : List Field) (hk : KeyCk w)
    (h : writeMsg w mp = .ok (w', fields)) : KeyCk w' := by
  obtain ⟨st, out, ht, pre, pl, rfl, hf⟩ := writeMsg_ok h
  have hst : KeyCk st := writeTokens_keyck _ _ _ _ _ hk ht
  rcases hf with ⟨rfl, _⟩ | ⟨_, _, rfl, _⟩
  · exact hst
  · exact hst

theorem getLast_one {α} (a : α) (pre : List α) (x : α) : (a :: (pre ++ [x])).getLast? = some x :=
  List.getLast?_concat (l := a :: pre)

theorem getLast_two {α} (a : α) (pre : List α) (x y : α) : (a :: (pre ++ [x, y])).getLast? = some y := by
  rw [← List.cons_append, List.getLast?_append]
  rfl

/-- the last thing `readMsg` does is to open the last field under its running
    digest and key; if it succeeds, the reader's digest and key afterwards are
    determined by that ciphertext -/
theorem readMsg_last (r r' : St) (mp : MsgPattern) (inp : List Field) (h : readMsg r mp inp = .ok r')
    (c : Ct) (hl : inp.getLast? = some (.ct (.hon c))) :
    r'.h = c.ad ++ [.ct c.id] ∧ r'.key = c.key := by
  obtain ⟨v, rest, ver, st, pay, rfl, ht, sta, x, st', pl, hd, ⟨rcv, rfl⟩, hpay⟩ := readMsg_ok h
  obtain ⟨pre, rfl⟩ := readTokens_suffix _ _ _ _ _ ht
  have hx : (Field.ver v :: (pre ++ pay)).getLast? = some (.ct x) := by
    rcases hpay with ⟨_, rfl⟩ | ⟨_, _, _, _, rfl⟩
    · exact getLast_one _ _ _
    · exact getLast_two _ _ _ _
  obtain ⟨c', rfl, hkey, _, had, _, rfl⟩ := decryptAndHash_ok hd
  cases hx.symm.trans hl
  exact ⟨congrArg (· ++ _) had.symm, hkey.symm⟩

theorem readMsg_keyck (r r' : St) (mp : MsgPattern) (inp : List Field) (hk : KeyCk r)
    (h : readMsg r mp inp = .ok r') : KeyCk r' := by
  obtain ⟨v, rest, ver, st, pay, rfl, ht, sta, x, st', pl, hd, ⟨rcv, rfl⟩, hpay⟩ := readMsg_ok h
  have hst : KeyCk st := (readTokens_ok ht).2 hk
  have hsta : KeyCk sta := by
    rcases hpay with ⟨rfl, _⟩ | ⟨_, _, _, hd1, _⟩
    · exact hst
    · exact decryptAndHash_keyck hst hd1
  exact (decryptAndHash_keyck hsta hd : KeyCk st')

/-- **Acceptance binds the reader to the creator of the ciphertext it accepted**,
    for every act, every version, every key, passphrase and payload, and
    whatever the adversary did to the fields in front of it: after a successful
    `readMsg` whose last field is the honest ciphertext `c`, the reader's
    transcript digest is the digest `c` was sealed over, extended by `c`, and
    its cipher key is the key `c` was sealed under. -/
theorem acceptance_binds (r r' : St) (mp : MsgPattern) (inp : List Field) (c : Ct)
    (h : readMsg r mp inp = .ok r') (hl : inp.getLast? = some (.ct (.hon c))) :
    r'.h = c.ad ++ [.ct c.id] ∧ r'.key = c.key :=
  readMsg_last r r' mp inp h c hl

/-- **Agreement after an act.**  For all states of the two parties (so for all
    keys, passphrases, payloads, version ranges and all earlier interference),
    if the writer's `writeMsg` succeeds, the adversary rewrites the fields in
    any way that leaves the final ciphertext in place, and the reader's
    `readMsg` succeeds, then both parties hold the same transcript digest —
    hence the same ephemeral keys, static-key ciphertexts and payload
    ciphertexts in the same order — the same cipher key and the same chaining
    key (so the two directions' keys derived by `split` are complementary). -/
theorem act_agreement (w w' r r' : St) (mp : MsgPattern) (fields fields' : List Field)
    (hkw : KeyCk w) (hkr : KeyCk r)
    (hw : writeMsg w mp = .ok (w', fields)) (hr : readMsg r mp fields' = .ok r')
    (hsame : fields'.getLast? = fields.getLast?) :
    r'.h = w'.h ∧ r'.key = w'.key ∧ r'.ck = w'.ck := by
  obtain ⟨pre, c, hlast, had, hkey, hh, hk, _⟩ := writeMsg_last w w' mp fields hw
  obtain ⟨h1, h2⟩ := readMsg_last r r' mp fields' hr c (hsame.trans hlast)
  have hkey' : r'.key = w'.key := by rw [h2, hk, hkey]
  have kw : KeyCk w' := writeMsg_keyck _ _ _ _ hkw hw
  have kr : KeyCk r' := readMsg_keyck _ _ _ _ hkr hr
  exact ⟨by rw [h1, hh, had], hkey', kr.symm.trans (hkey'.trans kw)⟩

/-- what the two parties hold when the handshake ends with that act: equal
    digests and complementary keys -/
theorem finish_agreement (i r : St) (hi : i.initiator = true) (hr : r.initiator = false)
    (hh : r.h = i.h) (hck : r.ck = i.ck) :
    (finish i).digest = (finish r).digest ∧ (finish i).sendKey = (finish r).recvKey ∧
      (finish i).recvKey = (finish r).sendKey := by
  unfold finish
  rw [hi, hr, hh, hck]
  exact ⟨rfl, rfl, rfl⟩

/-- non-vacuity: the states `initSt` builds satisfy the key invariant -/
theorem initSt_keyck (p : Pattern) (initiator : Bool) (ls le : Nat) (rs : Option Pt) (pw : Nat)
    (payload : Option Bytes) (a b : Nat) (st : St)
    (h : initSt xxPattern initiator ls le rs pw payload a b = .ok st) : KeyCk st := by
  cases h
  rfl

end Lnc.Props.C04
