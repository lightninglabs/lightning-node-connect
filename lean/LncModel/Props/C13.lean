import LncModel.Proofs.KaStep
/-
  C13 — Keepalive: dead peers are detected in bounded time, live idle peers are
  kept.
-/
namespace Lnc.Props.C13
open Lnc.Gbn.Control

/-- the peer answers every ping in time: while a pong deadline `d` is armed, the
    loop never observes a time ≥ d before a packet has arrived -/
def Answered (k : KA) : List Ev → Prop
  | [] => True
  | e :: es =>
    (match k.pongDue, e with
     | some d, .service t => t < d
     | _, _ => True) ∧ Answered (k.step e) es

/-- **a connection whose peer answers within the pong timeout is never closed by
    keepalive, however long it stays idle** — for every ping/pong setting and
    every event history -/
theorem live_peer_never_closed (k : KA) (hk : k.closed = false) (evs : List Ev) (h : Answered k evs) :
    (k.run evs).closed = false := by
  induction evs generalizing k with
  | nil => exact hk
  | cons e es ih =>
    refine ih (k.step e) (Bool.eq_false_iff.mpr fun hc => ?_) h.2
    obtain ⟨t, d, rfl, hp, hd⟩ := (KA.step_closed_iff k hk e).mp hc
    have h1 : t < d := by simpa only [hp] using h.1
    exact Nat.not_le_of_lt h1 hd

/-- service instants of a loop that is never away from its keepalive-servicing
    selects for longer than `W` (W bounds one resend round: 3 × resend timeout) -/
def Dense (W : Nat) (from_ : Nat) : List Nat → Prop
  | [] => True
  | t :: ts => from_ ≤ t ∧ t ≤ from_ + W ∧ Dense W t ts

theorem closed_stays (k : KA) (hk : k.closed = true) (evs : List Ev) : (k.run evs).closed = true :=
  List.foldlRecOn evs KA.step hk fun k hk e _ => (KA.step_of_closed k hk e).symm ▸ hk

/-- silence with the pong timer armed for `d`: closed at the first service instant ≥ d -/
theorem armed_closes (k : KA) (hk : k.closed = false) (d : Nat) (hp : k.pongDue = some d)
    (ts : List Nat) (hlast : ∃ t ∈ ts, d ≤ t) :
    (k.run (ts.map Ev.service)).closed = true := by
  induction ts generalizing k with
  | nil => exact nomatch hlast
  | cons t ts ih =>
    show ((k.step (.service t)).run (ts.map Ev.service)).closed = true
    by_cases hdt : d ≤ t
    · exact closed_stays _ ((KA.step_closed_iff k hk _).mpr ⟨t, d, rfl, hp, hdt⟩) _
    · obtain ⟨hk', hp'⟩ := KA.step_service_armed k hk d t hp hdt
      obtain ⟨t', ht', hd'⟩ := hlast
      exact ih _ hk' hp' ⟨t', (List.mem_cons.mp ht').resolve_left fun he => hdt (he ▸ hd'), hd'⟩

/-- **dead peer**: if nothing is received any more and the send loop reaches a
    keepalive-servicing select at least every `W` (W bounds one resend round),
    the connection is closed at the latest at the first service instant at or
    after `max(pingDue, now) + W + Q` — whatever the loop is doing (idle,
    sending, or sitting on a full window: that is the hypothesis on the selects,
    discharged on the regenerated facts).  `armed_closes` covers the case in
    which a ping is already outstanding when the silence begins. -/
theorem dead_peer_closed (W : Nat) (k : KA) (hk : k.closed = false) (hQ : 0 < k.Q) (hp : k.pongDue = none)
    (from_ : Nat) (ts : List Nat) (hd : Dense W from_ ts)
    (hlast : ∃ t ∈ ts, max k.pingDue from_ + W + k.Q ≤ t) :
    (k.run (ts.map Ev.service)).closed = true := by
  induction ts generalizing from_ with
  | nil => exact nomatch hlast
  | cons t ts ih =>
    obtain ⟨_, h2, h3⟩ := hd
    obtain ⟨t', ht', hb⟩ := hlast
    have hW : t ≤ max k.pingDue from_ + W := Nat.le_trans h2 (Nat.add_le_add_right (Nat.le_max_right _ _) W)
    have ht' : t' ∈ ts := (List.mem_cons.mp ht').resolve_left fun he =>
      Nat.not_le_of_lt (Nat.lt_add_of_pos_right hQ) (Nat.le_trans (he ▸ hb) hW)
    show ((k.step (.service t)).run (ts.map Ev.service)).closed = true
    rw [KA.step_service_idle k hk t hp]
    split
    · -- the ping fires now and arms the pong timer for t + Q
      exact armed_closes { k with pongDue := some (t + k.Q), pingDue := t + k.P } hk (t + k.Q) rfl ts
        ⟨t', ht', Nat.le_trans (Nat.add_le_add_right hW k.Q) hb⟩
    · next hping =>
      refine ih t h3 ⟨t', ht', ?_⟩
      rw [Nat.max_eq_left (Nat.le_of_not_le hping)]
      exact Nat.le_trans (Nat.add_le_add_right (Nat.add_le_add_right (Nat.le_max_left _ _) W) k.Q) hb

/-- the pre-repair behaviour, as a model: restarting the pong timer on every ping
    lets a ping interval shorter than the pong timeout postpone closure for ever -/
def stepRestart (k : KA) (t : Nat) : KA :=
  if k.closed then k
  else match k.pongDue with
    | some d => if d ≤ t then { k with closed := true }
                else if k.pingDue ≤ t then { k with pongDue := some (t + k.Q), pingDue := t + k.P } else k
    | none => if k.pingDue ≤ t then { k with pongDue := some (t + k.Q), pingDue := t + k.P } else k

theorem restart_never_closes_counterexample :
    ((List.range 40).foldl (fun k i => stepRestart k (i + 1)) ⟨1, 5, 1, none, false⟩).closed = false := by
  decide

/-! non-vacuity: ping 5, pong 3: silence ⇒ closed; answered pings ⇒ open -/
example : (KA.run ⟨5, 3, 5, none, false⟩ [.service 5, .service 6, .service 8]).closed = true := by decide
example : (KA.run ⟨5, 3, 5, none, false⟩ [.service 5, .pkt 7, .service 8, .service 12, .pkt 14, .service 30]).closed = false := by decide
example : Answered ⟨5, 3, 5, none, false⟩ [.service 5, .pkt 7, .service 8, .service 12, .pkt 14] :=
  ⟨trivial, trivial, trivial, trivial, trivial, trivial⟩

end Lnc.Props.C13
