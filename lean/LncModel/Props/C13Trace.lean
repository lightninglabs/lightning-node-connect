import LncModel.KaTrace
import LncModel.Props.C13
/-
  C13 — what acceptance by the keepalive trace validator means.  The validator
  (KaTrace.lean) is what ties `KA.step` to the running connections: every
  observed ping / close / packet arrival of a real endpoint must be explained
  by the model.  The theorems below say that "explained" is what it should be:
  the states the validator carries are reached by `KA.step` only, so an accepted
  trace is a run of the model the C13 theorems are about; a keepalive close is
  accepted only when the pong deadline has passed, a ping only when it is due.
-/
namespace Lnc.Props.C13
open Lnc.Gbn.Control

theorem mem_dedup {a : KA} {l : List KA} (h : a ∈ dedup l) : a ∈ l := by
  induction l with
  | nil => exact h
  | cons x xs ih =>
    rw [dedup] at h
    split at h
    · exact .tail _ (ih h)
    · exact List.mem_cons.mpr ((List.mem_cons.mp h).imp_right ih)

theorem mem_obs_ping {strict : Bool} {k k' : KA} {t : Nat} (h : k' ∈ k.obs strict (.ping t)) :
    k.closed = false ∧ k.pingDue ≤ t ∧ (strict = true → k.pingDue = t) ∧
      ((k.pongDue = some t ∧ k' = { k with pingDue := t + k.P }) ∨
        (k' = k.step (.service t) ∧ k'.closed = false)) := by
  simp only [KA.obs, List.mem_ite_nil_left, List.mem_ite_nil_right] at h
  obtain ⟨hc, ⟨hdue, hs⟩, h⟩ := h
  refine ⟨Bool.eq_false_iff.mpr hc, hdue, fun hst => by subst hst; exact of_decide_eq_true hs, ?_⟩
  by_cases hp : k.pongDue = some t
  · rw [if_pos hp] at h
    exact .inl ⟨hp, List.mem_singleton.mp h⟩
  · rw [if_neg hp, List.mem_ite_nil_left, List.mem_singleton] at h
    exact .inr ⟨h.2, Bool.eq_false_iff.mpr (h.2 ▸ h.1)⟩

theorem mem_obs_close {strict : Bool} {k k' : KA} {t : Nat} (h : k' ∈ k.obs strict (.close t)) :
    k.closed = false ∧ ∃ d, k.pongDue = some d ∧ d ≤ t ∧ (strict = true → d = t) ∧
      k' = k.step (.service t) := by
  cases hp : k.pongDue with
  | none =>
    simp only [KA.obs, hp, List.mem_ite_nil_left] at h
    cases h.2
  | some d =>
    simp only [KA.obs, hp, List.mem_ite_nil_left, List.mem_ite_nil_right, List.mem_singleton] at h
    obtain ⟨hc, ⟨hd, hs⟩, hk'⟩ := h
    exact ⟨Bool.eq_false_iff.mpr hc, d, rfl, hd, fun hst => by subst hst; exact of_decide_eq_true hs, hk'⟩

/-- every successor the validator admits is the model's own step on an event
    with the observation's time stamp (or the unchanged state, at the end) -/
theorem obs_is_step (strict : Bool) (k k' : KA) (o : Obs) (h : k' ∈ k.obs strict o) :
    k' = k ∨ (∃ e : Ev, e.time = o.time ∧ k' = k.step e) ∨
      (o = .ping o.time ∧ k.pongDue = some o.time ∧ k' = { k with pingDue := o.time + k.P }) := by
  cases o with
  | pkt t =>
    simp only [KA.obs, List.mem_ite_nil_left, List.mem_singleton] at h
    exact .inr (.inl ⟨.pkt t, rfl, h.2⟩)
  | ping t =>
    rcases (mem_obs_ping h).2.2.2 with ⟨hp, hk'⟩ | ⟨hk', _⟩
    · exact .inr (.inr ⟨rfl, hp, hk'⟩)
    · exact .inr (.inl ⟨.service t, rfl, hk'⟩)
  | close t =>
    obtain ⟨_, _, _, _, _, hk'⟩ := mem_obs_close h
    exact .inr (.inl ⟨.service t, rfl, hk'⟩)
  | stop t =>
    simp only [KA.obs, List.mem_ite_nil_left, List.mem_singleton] at h
    exact .inl h.2

/-- runs of the keepalive model as the validator sees them: steps of `KA.step`,
    plus the one thing two timers expiring at the same instant add — a ping that
    goes out at the very instant `t` the pong deadline expires, before the loop
    has seen that tick (the deadline stays armed, so the next service closes) -/
inductive Explained : KA → KA → Prop
  | refl (k : KA) : Explained k k
  | step (k : KA) (e : Ev) (k' : KA) : Explained (k.step e) k' → Explained k k'
  | tie (k : KA) (t : Nat) (k' : KA) : k.pongDue = some t →
      Explained { k with pingDue := t + k.P } k' → Explained k k'

/-- **an accepted sequence of observations is a run of the keepalive model**:
    every state the validator still carries after the observations `os` is
    reached from one of the states it started with by `KA.step` (and ties) -/
theorem runSeq_is_run (strict : Bool) (os : List Obs) (ks : List KA) (k' : KA)
    (h : k' ∈ runSeq strict ks os) : ∃ k ∈ ks, Explained k k' := by
  induction os generalizing ks with
  | nil => exact ⟨k', h, .refl _⟩
  | cons o os ih =>
    obtain ⟨k1, hk1, he⟩ := ih _ h
    obtain ⟨k, hk, hko⟩ := List.mem_flatMap.mp (mem_dedup hk1)
    refine ⟨k, hk, ?_⟩
    rcases obs_is_step strict k k1 o hko with rfl | ⟨e, _, rfl⟩ | ⟨_, hp, rfl⟩
    · exact he
    · exact .step _ e _ he
    · exact .tie _ _ _ hp he

theorem runGroup_is_run (strict : Bool) (g : List Obs) (ks : List KA) (k' : KA)
    (h : k' ∈ runGroup strict ks g) : ∃ k ∈ ks, Explained k k' := by
  obtain ⟨p, _, hp⟩ := List.mem_flatMap.mp (mem_dedup h)
  exact runSeq_is_run strict p ks k' hp

/-- ties do not close and do not disarm: whatever explains a trace, the model
    closes only through `KA.step`, i.e. (C13.lean) only at a service instant at
    or after an armed pong deadline -/
theorem explained_closed (k k' : KA) (h : Explained k k') (hk : k.closed = true) : k'.closed = true := by
  induction h with
  | refl k => exact hk
  | step k e k' _ ih => exact ih ((KA.step_of_closed k hk e).symm ▸ hk)
  | tie k t k' _ _ ih => exact ih hk

/-- a keepalive close is admitted only when a pong deadline is armed and has
    passed, and it closes the model too -/
theorem close_needs_expired_pong (strict : Bool) (k k' : KA) (t : Nat) (h : k' ∈ k.obs strict (.close t)) :
    ∃ d, k.pongDue = some d ∧ d ≤ t ∧ k.closed = false ∧ k'.closed = true := by
  obtain ⟨hc, d, hp, hd, _, rfl⟩ := mem_obs_close h
  exact ⟨d, hp, hd, hc, (KA.step_closed_iff k hc _).mpr ⟨t, d, rfl, hp, hd⟩⟩

/-- a ping is admitted only when it is due, no pong deadline has passed, and it
    leaves the model open with a pong deadline armed -/
theorem ping_needs_due (strict : Bool) (k k' : KA) (t : Nat) (h : k' ∈ k.obs strict (.ping t)) :
    k.pingDue ≤ t ∧ k.closed = false ∧ k'.closed = false ∧ k'.pongDue.isSome = true := by
  obtain ⟨hc, hdue, _, ⟨hp, rfl⟩ | ⟨rfl, hcl⟩⟩ := mem_obs_ping h
  · exact ⟨hdue, hc, hc, hp ▸ rfl⟩
  · refine ⟨hdue, hc, hcl, ?_⟩
    cases hp : k.pongDue with
    | none => rw [KA.step_service_idle k hc t hp, if_pos hdue]; rfl
    | some d =>
      -- the deadline has not passed, or the step would have closed
      have hd : ¬ d ≤ t := fun hd => Bool.eq_false_iff.mp hcl ((KA.step_closed_iff k hc _).mpr ⟨t, d, rfl, hp, hd⟩)
      rw [(KA.step_service_armed k hc d t hp hd).2]; rfl

/-- strict mode: a ping is admitted only at the very instant it is due -/
theorem strict_ping_on_time (k k' : KA) (t : Nat) (h : k' ∈ k.obs true (.ping t)) : k.pingDue = t :=
  (mem_obs_ping h).2.2.1 rfl

/-! non-vacuity: ping 5 s / pong 3 s.  An idle healthy endpoint (pings on time,
    answers 10 ms later, one answer arriving at the very instant the next ping
    is due) is accepted strictly; a premature close, an early ping and a missing
    ping are not. -/
def k0 : KA := ⟨5000, 3000, 5000, none, false⟩
example : validate true k0 [.ping 5000, .pkt 5010, .ping 10010, .pkt 10020, .stop 12000] = none := by decide
example : validate true k0 [.ping 5000, .pkt 5010, .pkt 10010, .ping 10010, .pkt 10020, .stop 12000] = none := by decide
example : (validate false k0 [.ping 5000, .close 7999]).isSome = true := by decide
example : validate false k0 [.ping 5000, .close 8000] = none := by decide
example : (validate false k0 [.ping 4000]).isSome = true := by decide
example : (validate true k0 [.ping 5000, .pkt 5010, .stop 12000]).isSome = true := by decide
example : validate false k0 [.ping 5000, .pkt 5010, .stop 12000] = none := by decide

end Lnc.Props.C13
