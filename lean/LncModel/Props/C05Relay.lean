import LncModel.Relay
/-
  C05 / C01 — the mailbox layer over the relay is a transport in the sense the
  Go-Back-N theorems assume.

  C01, C06 and C05_end_to_end quantify over channels that keep per-direction
  order but may drop, duplicate in place and delay.  The property C05 speaks of
  a relay that "may drop or delay relay messages and break and re-establish its
  streams".  The theorems below close that gap for the retry loops of
  ServerConn / ClientConn (Relay.lean): whatever the outcome of every single
  stream operation — send attempts that fail with or without the relay having
  queued the payload, payloads acknowledged and then lost, receive attempts
  that fail with or without the relay having taken the head of the queue — the
  sequence of payloads the receive function hands to Go-Back-N arises from the
  sequence of payloads given to the send function by dropping items and
  repeating items in place (`LossyDup`), which is exactly what the channel of
  the protocol model does (`lossyDup_iff_chan`).  (One sender at a time per
  mailbox: Go-Back-N's DATA and ACK senders are serialised by the harness of
  this theorem as they are by the relay's per-stream order; see DESIGN.)
-/
namespace Lnc.Props.C05
open Lnc Lnc.Mailbox.Relay

theorem ld_of_nil {ys : List Bytes} (h : LossyDup [] ys) : ys = [] := by
  cases h
  rfl

theorem ld_nil_right (xs : List Bytes) : LossyDup xs [] := by
  induction xs with
  | nil => exact .nil
  | cons x xs ih => exact .drop x ih

/-- a further payload given to the send function and lost altogether -/
theorem ld_append_drop {xs ys : List Bytes} (m : Bytes) (h : LossyDup xs ys) : LossyDup (xs ++ [m]) ys := by
  induction h with
  | nil => exact .drop m .nil
  | drop x _ ih => exact .drop x ih
  | dup x _ ih => exact .dup x ih

/-- one more copy of the payload the sender is working on reaches the queue -/
theorem ld_snoc_emit {zs ys : List Bytes} (m : Bytes) (h : LossyDup zs ys) (hl : zs.getLast? = some m) :
    LossyDup zs (ys ++ [m]) := by
  induction h with
  | nil => cases hl
  | @drop x xs ys h ih =>
    cases xs with
    | nil =>
      cases ld_of_nil h
      cases Option.some.inj hl
      exact .dup x (.drop x .nil)
    | cons x' xs' => exact .drop x (ih (List.getLast?_cons_cons ▸ hl))
  | dup x _ ih => exact .dup x (ih hl)

/-- whatever is taken out of the queue and lost, the rest is still a lossy image -/
theorem ld_sublist {xs ys : List Bytes} (h : LossyDup xs ys) : ∀ {ys'}, List.Sublist ys' ys → LossyDup xs ys' := by
  induction h with
  | nil =>
    intro ys' hs
    cases hs
    exact .nil
  | drop x _ ih => exact fun hs => .drop x (ih hs)
  | @dup x xs ys _ ih =>
    intro ys' hs
    cases hs with
    | cons _ hs' => exact ih hs'
    | cons_cons _ hs' => exact .dup x (ih hs')

/-- the invariant: what has been handed out plus what is queued is a lossy image of what was given
    to the send function -/
def Inv (sent : List Bytes) (s : St) : Prop := LossyDup sent (s.got ++ s.box)

theorem sendCall_inv (m : Bytes) (tries : List SendTry) (sent : List Bytes) (s : St)
    (h : LossyDup (sent ++ [m]) (s.got ++ s.box)) : Inv (sent ++ [m]) (sendCall m tries s).1 := by
  have emit : ∀ s : St, LossyDup (sent ++ [m]) (s.got ++ s.box) →
      LossyDup (sent ++ [m]) (s.got ++ (s.box ++ [m])) := fun s h =>
    List.append_assoc .. ▸ ld_snoc_emit m h List.getLast?_concat
  fun_induction sendCall m tries s with
  | case1 s => exact h
  | case2 _ s => exact emit s h
  | case3 _ s => exact h
  | case4 q rest s ih =>
    cases q
    · exact ih h
    · exact ih (emit s h)

theorem recvCall_sublist (tries : List RecvTry) (s : St) :
    ((recvCall tries s).1.got ++ (recvCall tries s).1.box).Sublist (s.got ++ s.box) := by
  fun_induction recvCall tries s with
  | case1 s => exact .refl _
  | case2 _ s hb => exact .refl _
  | case3 _ s h t hb => exact hb ▸ List.append_assoc s.got [h] t ▸ .refl _
  | case4 taken rest s hb ih => exact ih
  | case5 taken rest s h t hb ih =>
    refine ih.trans ?_
    rw [hb]
    cases taken
    · exact hb ▸ .refl _
    · exact (List.sublist_cons_self h t).append_left s.got

theorem recvCall_inv (tries : List RecvTry) (sent : List Bytes) (s : St) (h : Inv sent s) :
    Inv sent (recvCall tries s).1 :=
  ld_sublist h (recvCall_sublist tries s)

theorem run_inv (ops : List Op) (sent : List Bytes) (s : St) (h : Inv sent s) :
    Inv (sent ++ sentOf ops) (run s ops) := by
  induction ops generalizing sent s with
  | nil => exact (List.append_nil sent).symm ▸ h
  | cons op ops ih =>
    cases op with
    | send m tries =>
      rw [sentOf, List.append_cons]
      exact ih _ _ (sendCall_inv m tries sent s (ld_append_drop m h))
    | recv tries => exact ih _ _ (recvCall_inv tries sent s h)

/-- **the mailbox layer over the relay is a lossy, duplicating, order-keeping channel.**  For every
    sequence of send and receive calls and every outcome of every stream operation: the payloads
    handed to Go-Back-N by the receive function, in order, are obtained from the payloads given to
    the send function, in order, by dropping some and repeating some in place — never reordered,
    never altered, never invented. -/
theorem relay_layer_is_lossy_fifo (ops : List Op) : LossyDup (sentOf ops) (run St.init ops).got :=
  ld_sublist (run_inv ops [] St.init .nil) (List.sublist_append_left _ _)

/-! ### `LossyDup` is the channel of the protocol model -/

inductive COp | deliver | dupDeliver | drop
deriving Repr, DecidableEq

/-- a FIFO channel holding `xs`: deliver the head, deliver a copy of the head and keep it (Proto:
    fwdDup then fwdDeliver), or drop the head; what is left when the schedule ends is still delayed -/
def chanOut : List Bytes → List COp → List Bytes
  | _, [] => []
  | [], _ :: _ => []
  | x :: xs, .deliver :: r => x :: chanOut xs r
  | x :: xs, .dupDeliver :: r => x :: chanOut (x :: xs) r
  | _ :: xs, .drop :: r => chanOut xs r

theorem lossyDup_of_chan (xs : List Bytes) (ops : List COp) : LossyDup xs (chanOut xs ops) := by
  fun_induction chanOut xs ops with
  | case1 xs => exact ld_nil_right xs
  | case2 => exact .nil
  | case3 x xs r ih => exact .dup x (.drop x ih)
  | case4 x xs r ih => exact .dup x ih
  | case5 x xs r ih => exact .drop x ih

theorem chan_of_lossyDup {xs ys : List Bytes} (h : LossyDup xs ys) : ∃ ops, chanOut xs ops = ys := by
  induction h with
  | nil => exact ⟨[], rfl⟩
  | drop x _ ih =>
    obtain ⟨ops, ho⟩ := ih
    exact ⟨.drop :: ops, ho⟩
  | dup x _ ih =>
    obtain ⟨ops, ho⟩ := ih
    exact ⟨.dupDeliver :: ops, congrArg (x :: ·) ho⟩

theorem lossyDup_iff_chan (xs ys : List Bytes) : LossyDup xs ys ↔ ∃ ops, chanOut xs ops = ys :=
  ⟨chan_of_lossyDup, fun ⟨ops, h⟩ => h ▸ lossyDup_of_chan xs ops⟩

/-! non-vacuity: three payloads; the first is queued by a failed attempt and again by the retry, the
    second is acknowledged and lost, a receive attempt fails after the relay took a copy -/
example : (run St.init [.send [1] [.fail true, .ok], .send [2] [.okLost], .recv [.fail true, .ok],
    .send [3] [.fail false, .fail false, .ok], .recv [.ok], .recv [.ok]]).got = [[1], [3]] := by decide

end Lnc.Props.C05
