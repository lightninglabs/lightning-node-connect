import LncModel.Proofs.ProtoStep
import LncModel.Props.C07
/-
  C09 — GBN sender never exceeds its window; Send blocks only when it is full.
-/
namespace Lnc.Props.C09
open Lnc Lnc.Gbn

/-- **never more than `n` packets outstanding**, and the code's `size()` is
    exactly "first transmissions minus cumulative acknowledgements" -/
theorem C09_window (n : Nat) (hn : 0 < n) (hn254 : n ≤ 254) (σ : Uni) (hr : Reachable n σ) :
    σ.T - σ.B ≤ σ.n ∧ σ.q.size = σ.T - σ.B ∧ σ.B ≤ σ.T := by
  have h := inv_reachable hn hn254 hr
  exact ⟨Nat.sub_le_iff_le_add'.mpr h.win, size_eq h, h.B_le_T⟩

/-- **the bookkeeping stays inside a sequence space strictly larger than the window** -/
theorem C09_bounds (n : Nat) (hn : 0 < n) (hn254 : n ≤ 254) (σ : Uni) (hr : Reachable n σ) :
    σ.n < σ.q.s ∧ σ.q.base < σ.q.s ∧ σ.q.top < σ.q.s ∧ σ.recvSeq < σ.q.s := by
  have h := inv_reachable hn hn254 hr
  have hs : 0 < σ.q.s := Nat.zero_lt_of_lt h.n_lt_s
  exact ⟨h.n_lt_s, h.base_eq ▸ Nat.mod_lt _ hs, h.top_eq ▸ Nat.mod_lt _ hs, h.recv_eq ▸ Nat.mod_lt _ hs⟩

theorem step_sendNew {σ : Uni} (h : Inv σ) (p : Pkt) (hroom : σ.T - σ.B < σ.n) :
    ∃ σ', σ.step? (.sendNew p) = some σ' ∧ σ'.T = σ.T + 1 ∧ σ'.B = σ.B ∧ σ'.n = σ.n := by
  rw [Uni.step?, size_eq h, if_pos hroom, addPacket_eq h]
  exact ⟨_, rfl, rfl, rfl, rfl⟩

/-- while fewer than `n` packets are outstanding a new packet is accepted
    without waiting for the peer … -/
theorem C09_room_enabled (σ : Uni) (h : Inv σ) (p : Pkt) (hroom : σ.T - σ.B < σ.n) :
    (σ.step? (.sendNew p)).isSome = true := by
  obtain ⟨_, h1, _⟩ := step_sendNew h p hroom
  rw [h1]
  rfl

/-- … and with `n` outstanding none is, until an acknowledgement moves the base -/
theorem C09_blocks_when_full (σ : Uni) (h : Inv σ) (p : Pkt) (hfull : σ.T - σ.B = σ.n) :
    σ.step? (.sendNew p) = none := by
  rw [Uni.step?, size_eq h, hfull, if_neg (Nat.lt_irrefl _)]

/-- the first `n` sends of a fresh connection are accepted with no ACK at all,
    the next one is not -/
theorem C09_first_n_free (n : Nat) (hn : 0 < n) (hn254 : n ≤ 254) (ps : List Pkt) (hlen : ps.length ≤ n) :
    ∃ σ, (Uni.init n).run? (ps.map Label.sendNew) = some σ ∧ σ.T = ps.length ∧ σ.B = 0 := by
  suffices h : ∀ (ps : List Pkt) (σ0 : Uni), Inv σ0 → σ0.B = 0 → ps.length + σ0.T ≤ σ0.n →
      ∃ σ, σ0.run? (ps.map Label.sendNew) = some σ ∧ σ.T = ps.length + σ0.T ∧ σ.B = 0 from
    h ps (Uni.init n) (inv_init n hn hn254) rfl hlen
  intro ps
  induction ps with
  | nil => exact fun σ0 _ hB _ => ⟨σ0, rfl, (Nat.zero_add _).symm, hB⟩
  | cons p ps ih =>
    intro σ0 hinv hB hT
    rw [List.length_cons] at hT ⊢
    obtain ⟨σ1, h1, hT1, hB1, hn1⟩ := step_sendNew hinv p (by omega)
    obtain ⟨σ, h2, h3, h4⟩ := ih σ1 (inv_step hinv _ h1) (hB1.trans hB) (by omega)
    exact ⟨σ, (Uni.run_cons h1 _).trans h2, by omega, h4⟩

/-- sequence space of the handshake: `s = n + 1` exactly when `n ≤ 254` -/
theorem C09_seqspace (n : Nat) (h : n ≤ 254) : mkS n = n + 1 :=
  mkS_of_le h

/-- the excluded point: a window of 255 would give an empty sequence space
    (uint8 wrap) — the handshake must refuse it (C10, adoptN) -/
theorem C09_seqspace_255 : mkS 255 = 0 := by decide

/-- relay-chosen ACK/NACK values cannot push the bookkeeping out of range
    (C07's queue theorems, restated for C09) -/
theorem C09_relay_values (q : Queue) (h : C07.QWF q) (seq : Nat) :
    (∃ q' ok, q.processACK seq = .ok (q', ok) ∧ C07.QWF q' ∧ q'.size ≤ q.size) ∧
    C07.QWF (q.processNACK seq).1 ∧ (q.processNACK seq).1.size ≤ q.size := by
  obtain ⟨q', ok, h1, h2, _, _, h3⟩ := C07.processACK_total q h seq
  have hn := C07.processNACK_total q h seq
  exact ⟨⟨q', ok, h1, h2, h3⟩, hn.1, hn.2.2.2⟩

/-! non-vacuity: window 2 is full after two sends, frees after an ACK -/
example : (((Uni.init 2).run? [.sendNew ⟨[1], true, false⟩, .sendNew ⟨[2], true, false⟩]).bind
    (fun σ => σ.step? (.sendNew ⟨[3], true, false⟩))).isSome = false := by decide
example : (((Uni.init 2).run? [.sendNew ⟨[1], true, false⟩, .sendNew ⟨[2], true, false⟩,
    .fwdDeliver false, .bwdDeliver]).bind
    (fun σ => σ.step? (.sendNew ⟨[3], true, false⟩))).isSome = true := by decide

end Lnc.Props.C09
