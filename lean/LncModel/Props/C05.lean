import LncModel.Stack
import LncModel.Props.C02Honest
import LncModel.Props.C14
import LncModel.Props.C15
import LncModel.Props.C19
import LncModel.Props.C08
import LncModel.Props.C02
/-
  C05 — End to end: bytes written on one side arrive intact through the relay.
  The composition of the layer theorems (their interfaces are types, so the
  kernel checks that they fit).
-/
namespace Lnc.Props.C05
open Lnc Lnc.Gbn Lnc.Mailbox Lnc.Mailbox.Stack Lnc.Mailbox.Stream

/-- MsgData's length prefix is 32 bits -/
def maxLen : Nat := 4294967296

theorem kitRecv_one (w : Bytes) (hw : w.length < maxLen) :
    MsgData.deserialize (kitSend w) = .ok ⟨0, w⟩ :=
  Lnc.Props.C19.msgdata_roundtrip ⟨0, []⟩ 0 w hw

theorem kitRecvAll_cons (m w : Bytes) (v : UInt8) (ms : List Bytes) (hm : MsgData.deserialize m = .ok ⟨v, w⟩) :
    kitRecvAll (m :: ms) = w :: kitRecvAll ms :=
  List.filterMap_cons_some (by rw [hm])

theorem kitRecvAll_kitSend (ws : List Bytes) (hlen : ∀ w ∈ ws, w.length < maxLen) :
    kitRecvAll (ws.map kitSend) = ws := by
  induction ws with
  | nil => rfl
  | cons w ws ih =>
    rw [List.map_cons, kitRecvAll_cons (kitSend w) w 0 _ (kitRecv_one w (hlen w List.mem_cons_self)),
      ih (fun x hx => hlen x (List.mem_cons_of_mem _ hx))]

theorem kitRecvAll_prefix (a b : List Bytes) (h : a <+: b) : kitRecvAll a <+: kitRecvAll b :=
  h.filterMap _

theorem flatten_prefix {a b : List Bytes} (h : a <+: b) : a.flatten <+: b.flatten := by
  obtain ⟨t, rfl⟩ := h
  rw [List.flatten_append]
  exact List.prefix_append _ _

/-- **Byte transport through GBN and the relay.**  If the GBN layer hands the
    receiving side a prefix of the packets the sending side queued (C01, for
    every drop/dup/delay schedule of the relay), then for every sequence of
    connKit writes and every sequence of read-buffer sizes the bytes read are a
    prefix of the bytes written — message framing (C19), chunking/reassembly
    (C14) and the read buffer (C15) compose. -/
theorem transport_stream_prefix (writes : List Bytes) (hlen : ∀ w ∈ writes, w.length < maxLen)
    (out : List Pkt) (hout : out <+: packetsOf writes) (ks : List Nat) :
    (kitRead out ks).1.flatten <+: writes.flatten := by
  have hchunks : kitRecvAll (reassembleOut out []) <+: writes :=
    kitRecvAll_kitSend writes hlen ▸
      kitRecvAll_prefix _ _ (Lnc.Props.C14.C14_with_C01 0 (writes.map kitSend) out hout)
  exact (Lnc.Props.C15.prefix_of_append_rest (Lnc.Props.C15.buf_stream ks ⟨[], _⟩)).1.trans
    (flatten_prefix hchunks)

/-- … and when everything has been delivered and drained, the streams are equal -/
theorem transport_stream_complete (writes : List Bytes) (hlen : ∀ w ∈ writes, w.length < maxLen)
    (ks : List Nat) (hdrained : (kitRead (packetsOf writes) ks).2.rest = []) :
    (kitRead (packetsOf writes) ks).1.flatten = writes.flatten := by
  have hk : kitRead (packetsOf writes) ks = readAll bufRead ks ⟨[], writes⟩ := by
    rw [kitRead, packetsOf, Lnc.Props.C14.reassemble_msgs, kitRecvAll_kitSend writes hlen]
  rw [hk] at hdrained ⊢
  exact (Lnc.Props.C15.prefix_of_append_rest (Lnc.Props.C15.buf_stream ks ⟨[], writes⟩)).2 hdrained

/-- **every message the relay sees is ciphertext**: what the noise layer hands to
    connKit.Write are sealed units only (C08), and GBN/MsgData framing adds
    headers but no plaintext -/
theorem relay_sees_only_ciphertext (R dir : Nat) (c : Cipher.CS) (recs : List Bytes) :
    ∀ u ∈ Cipher.writeAll R dir c recs, ∃ c1 c2 p, u = (Cipher.sealCt dir c1 (Cipher.lenHdr p.length), Cipher.sealCt dir c2 p) :=
  fun u hu => by
    obtain ⟨c1, c2, p, h, _⟩ := Lnc.Props.C08.wire_is_ciphertext R dir c recs u hu
    exact ⟨c1, c2, p, h⟩

/-- the record layer on top returns a prefix of the records written whatever
    bytes it is fed (C02), in particular on the honest prefix delivered above -/
theorem records_prefix (recs : List Bytes) (fuel dir : Nat) (wire : List Record.SByte) :
    (Record.oks (Record.readLoop recs fuel ⟨dir, 0, false⟩ wire)).filterMap (fun j => recs[j]?) <+: recs :=
  Lnc.Props.C02.C02_plaintext_prefix recs fuel dir wire

/-- … and all of them, in order, when the bytes that arrive are the bytes that
    were sent (which `transport_stream_complete` provides once the transfer has
    drained): the record layer then hands out every record written -/
theorem records_complete (recs : List Bytes) (dir fuel : Nat) (hfuel : recs.length ≤ fuel) :
    Record.oks (Record.readLoop recs fuel ⟨dir, 0, false⟩ (Lnc.Props.C02.honestFrom dir 0 recs)) = List.range recs.length :=
  Lnc.Props.C02.C02_honest_complete recs dir fuel hfuel

/-! non-vacuity: two connKit writes, the second one only partly delivered yet -/
example : (kitRead ((packetsOf [[1, 2, 3], [4, 5]]).take 1) [2, 2, 2]).1 = [[1, 2], [3]] := by decide

end Lnc.Props.C05
