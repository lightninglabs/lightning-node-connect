import LncModel.Props.C05
import LncModel.Props.C01Bi
import LncModel.Props.C06Bi
/-
  C05 — the composition carried down to the Go-Back-N transition system itself.

  `transport_stream_prefix` (Props/C05.lean) takes "the GBN layer handed over a
  prefix of what was queued" as a hypothesis.  Here that hypothesis is
  discharged by C01_bi: the statements below quantify over every reachable
  state of the bidirectional connection with its two shared physical channels
  (any window, any interleaving of both directions, any loss / in-place
  duplication / delay), over every sequence of connKit writes on either side
  and over every sequence of read-buffer sizes.
-/
namespace Lnc.Props.C05
open Lnc Lnc.Gbn Lnc.Mailbox Lnc.Mailbox.Stack Lnc.Mailbox.Stream

/-- **C05, safety, both directions, from the relay up to connKit.Read.**
    `wa` / `wb` are the connKit writes issued so far on side A / side B (each a
    record header or a record body, at most 2^32-1 bytes); the packets GBN's
    Send has accepted are a prefix of their packets (a write may still be
    blocked in Send).  Then, whatever the relay has done to the packets, the
    bytes either side has read so far — with any read-buffer sizes — are a
    prefix of the bytes the other side wrote. -/
theorem C05_end_to_end (n : Nat) (hn : 0 < n) (hn254 : n ≤ 254) (β : Bi) (hr : BiReachable n β)
    (wa wb : List Bytes) (hla : ∀ w ∈ wa, w.length < maxLen) (hlb : ∀ w ∈ wb, w.length < maxLen)
    (hA : β.ab.accepted <+: packetsOf wa) (hB : β.ba.accepted <+: packetsOf wb)
    (ksA ksB : List Nat) :
    (kitRead β.ab.out ksB).1.flatten <+: wa.flatten ∧
    (kitRead β.ba.out ksA).1.flatten <+: wb.flatten := by
  obtain ⟨ha, hb⟩ := Lnc.Props.C01.C01_bi n hn hn254 β hr
  exact ⟨transport_stream_prefix wa hla _ (ha.trans hA) ksB,
         transport_stream_prefix wb hlb _ (hb.trans hB) ksA⟩

/-- a read schedule that drains: enough one-byte-or-more reads -/
theorem kitRead_drains (msgs : List Pkt) (ks : List Nat)
    (h : (kitRead msgs ks).2.rest = []) (writes : List Bytes) (hlen : ∀ w ∈ writes, w.length < maxLen)
    (hm : msgs = packetsOf writes) : (kitRead msgs ks).1.flatten = writes.flatten := by
  subst hm
  exact transport_stream_complete writes hlen ks h

/-- **C05, completion once the relay behaves (untimed).**  From every reachable
    state in which both Sends have accepted all packets of the writes `wa`, `wb`,
    a continuation made of retransmissions and in-order deliveries only (no
    loss, no duplication: `biReliable`) reaches a state where nothing is in
    flight, both send queues are empty, and — for every read schedule that
    drains the read buffer — the bytes read on each side *equal* the bytes
    written on the other. -/
theorem C05_completes (n : Nat) (hn : 0 < n) (hn254 : n ≤ 254) (β : Bi) (hr : BiReachable n β)
    (wa wb : List Bytes) (hla : ∀ w ∈ wa, w.length < maxLen) (hlb : ∀ w ∈ wb, w.length < maxLen)
    (hA : β.ab.accepted = packetsOf wa) (hB : β.ba.accepted = packetsOf wb) :
    ∃ ls β', β.run? ls = some β' ∧ (∀ l ∈ ls, Lnc.Props.C06.biReliable l = true) ∧
      β'.chAB = [] ∧ β'.chBA = [] ∧ β'.ab.q.size = 0 ∧ β'.ba.q.size = 0 ∧
      (∀ ks, (kitRead β'.ab.out ks).2.rest = [] → (kitRead β'.ab.out ks).1.flatten = wa.flatten) ∧
      (∀ ks, (kitRead β'.ba.out ks).2.rest = [] → (kitRead β'.ba.out ks).1.flatten = wb.flatten) := by
  obtain ⟨ls, β', hrun, hrel, oa, ob, sa, sb, ca, cb⟩ := Lnc.Props.C06.C06_bi_recovery n hn hn254 β hr
  exact ⟨ls, β', hrun, hrel, ca, cb, sa, sb,
    fun ks hd => kitRead_drains _ ks hd wa hla (oa.trans hA),
    fun ks hd => kitRead_drains _ ks hd wb hlb (ob.trans hB)⟩

/-! non-vacuity: a reachable bidirectional state (a duplicate, a drop, a
    retransmission, ACKs sharing the channel with DATA) that satisfies the
    hypotheses of `C05_end_to_end` for one 3-byte write on side A, half read -/
def demoWrites : List Bytes := [[9, 8, 7]]
def demoRun : List BiLabel :=
  (packetsOf demoWrites).map BiLabel.sendA ++ [.dupAB, .dropAB, .deliverAB false]

example : ((Bi.init 2).run? demoRun).map (fun β =>
      (decide (β.ab.accepted = packetsOf demoWrites), (kitRead β.ab.out [2]).1))
    = some (true, [[9, 8]]) := by decide

end Lnc.Props.C05
