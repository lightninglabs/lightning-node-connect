import LncModel.Proofs.ProtoStep
/-
  C01 — GBN delivers every message exactly once, in order and intact.
  Property theorems only; the invariant and its preservation are in
  Proofs/ProtoInv.lean and Proofs/ProtoStep.lean.
-/
namespace Lnc.Props.C01
open Lnc Lnc.Gbn

/-- **C01, one direction, packet level.**  For every window size `1 ≤ n ≤ 254`
    and every finite sequence of steps — new packets (data or ping), any
    retransmissions of the last `n` packets, per-packet drop / in-order
    duplicate / delay on both channels — the packets handed to the receiving
    application are a prefix of the packets accepted by the sender: nothing
    lost in the middle, duplicated, reordered or altered (`Pkt` equality covers
    payload bytes and the FinalChunk flag). -/
theorem C01_uni (n : Nat) (hn : 0 < n) (hn254 : n ≤ 254) (σ : Uni) (hr : Reachable n σ) :
    σ.out <+: σ.accepted := by
  have h := inv_reachable hn hn254 hr
  rw [h.out_eq]
  exact (List.take_prefix _ _).filter _

/-- the receiver's output is exactly the first `R` accepted packets: nothing
    is skipped once later packets have been delivered -/
theorem C01_exact (n : Nat) (hn : 0 < n) (hn254 : n ≤ 254) (σ : Uni) (hr : Reachable n σ) :
    σ.out = (σ.log.take σ.R).filter (fun p => !p.ping) ∧ σ.R ≤ σ.log.length :=
  let h := inv_reachable hn hn254 hr
  ⟨h.out_eq, h.log_len ▸ h.RT⟩

/-! Non-vacuity: a concrete run, n = 2 (s = 3), that wraps the sequence space,
    loses an ACK, duplicates a DATA packet, retransmits, and provokes a NACK —
    every label below is enabled, and the output is the accepted prefix. -/
def pk (b : UInt8) : Pkt := ⟨[b], true, false⟩
def demo : List Label :=
  [.sendNew (pk 1), .sendNew (pk 2), .fwdDup, .fwdDeliver false, .fwdDeliver true,
   .bwdDrop, .fwdDeliver false, .bwdDeliver, .bwdDeliver,
   .sendNew (pk 3), .sendNew ⟨[], false, true⟩, .retransmit 2, .fwdDeliver false, .fwdDrop,
   .fwdDeliver true, .bwdDeliver, .bwdDup, .bwdDeliver, .bwdDeliver, .retransmit 3,
   .fwdDeliver false, .bwdDeliver, .sendNew (pk 4), .fwdDeliver false]

example : ((Uni.init 2).run? demo).map (fun σ => (σ.out, [σ.B, σ.R, σ.T, σ.q.base, σ.q.top, σ.recvSeq]))
    = some ([pk 1, pk 2, pk 3, pk 4], [4, 5, 5, 1, 2, 2]) := by decide

end Lnc.Props.C01
