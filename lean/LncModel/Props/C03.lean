import LncModel.Proofs.NoiseLemmas
/-
  C03 — Only holders of the pairing secret or paired keys can complete a
  handshake.  Symbolic model (see Noise.lean for the idealisation).
-/
namespace Lnc.Props.C03
open Lnc Lnc.Mailbox.Noise

def failed : SideRes → Bool
  | .ok _ => false
  | _ => true

/-- the responder had put nothing on the wire when the run ended -/
def responderWroteNothing (p : Pattern) (r : SideRes) : Bool :=
  match r with
  | .newFail _ => true
  | .fail a _ => (p.msgs.filter fun m => m.initiator = false ∧ m.act < a).isEmpty
  | .ok _ => false

def act1xx : MsgPattern := ⟨[.me], true, 1⟩
def act1kk : MsgPattern := ⟨[.e, .es, .ss], true, 1⟩

theorem run_first_rejected {p : Pattern} {ci cr : Cfg} {mitm : Mitm} {toks : List Token} {rest : List MsgPattern}
    (hmsgs : p.msgs = ⟨toks, true, 1⟩ :: rest) (hlater : (rest.any fun m => m.initiator ≠ true) = true)
    (hresp : responderWroteNothing p (.fail 1 "") = true)
    (hrej : ∀ i r, initSt p true ci.ls ci.le ci.rs ci.pw ci.payload ci.minV ci.maxV = .ok i →
      initSt p false cr.ls cr.le cr.rs cr.pw cr.payload cr.minV cr.maxV = .ok r →
      ∀ w' fields, writeMsg i ⟨toks, true, 1⟩ = .ok (w', fields) →
        ∃ e, readMsg r ⟨toks, true, 1⟩ (mitm 1 fields) = .error e) :
    failed (run p ci cr mitm).1 = true ∧ failed (run p ci cr mitm).2 = true ∧
    responderWroteNothing p (run p ci cr mitm).2 = true := by
  unfold run
  split
  -- both refused their configuration; only the initiator; only the responder; neither
  · exact ⟨rfl, rfl, rfl⟩
  · exact ⟨rfl, rfl, hresp⟩
  · exact ⟨rfl, rfl, rfl⟩
  · next i r hi hr =>
    simp only [hmsgs, runActs, if_true]
    cases hw : writeMsg i ⟨toks, true, 1⟩ with
    | error e => exact ⟨rfl, rfl, hresp⟩
    | ok wf =>
      obtain ⟨e, he⟩ := hrej i r hi hr wf.1 wf.2 hw
      simp only [he, if_pos hlater]
      exact ⟨rfl, rfl, hresp⟩

/-- shape of what the initiator puts on the wire in XX act 1 -/
theorem write_act1_xx (st st' : St) (fields : List Field) (h : writeMsg st act1xx = .ok (st', fields)) :
    ∃ c : Ct, fields = [.ver st.version, .point (some (.masked st.le st.pw)), .ct (.hon c)] ∧
      c.ad = st.h ++ [.pt (.pub st.le)] ∧ c.pl = .empty := by
  obtain ⟨sto, out, ht, rfl, rfl⟩ := writeMsg_single (by decide) h
  cases ht
  exact ⟨_, rfl, rfl, rfl⟩

/-- **the responder cannot get past act 1 without the passphrase**: whatever
    version byte is presented, a first message built with another passphrase
    fails the MAC check in act 1 -/
theorem read_act1_xx_wrong_pw (r : St) (v le pw : Nat) (c : Ct) (hpw : pw ≠ r.pw)
    (had : c.ad = r.h ++ [.pt (.pub le)]) :
    ∃ e, readMsg r act1xx [.ver v, .point (some (.masked le pw)), .ct (.hon c)] = .error e := by
  refine readMsg_rejects (by decide) fun ver st c' ht had' => ?_
  cases ht
  -- the digest the responder reached holds the unmasked point, not the initiator's ephemeral
  have hpt : [Tok.pt (.pub le)] = [Tok.pt (ekeUnmask (.masked le pw) r.pw)] :=
    List.append_cancel_left (had.symm.trans had')
  rw [show ekeUnmask (.masked le pw) r.pw = .unmasked le pw r.pw from if_neg hpw] at hpt
  cases hpt

theorem initSt_xx (initiator : Bool) (ls le : Nat) (rs : Option Pt) (pw : Nat) (pl : Option Bytes) (a b : Nat) :
    ∃ st, initSt xxPattern initiator ls le rs pw pl a b = .ok st ∧ st.h = [.proto false, .prologue] ∧
      st.le = le ∧ st.pw = pw :=
  ⟨_, rfl, rfl, rfl, rfl⟩

/-- **First-time (XX) handshake with different passphrases**: for all keys, all
    version ranges, all auth payloads — the responder fails in act 1, before it
    has written anything (so the auth payload is never released), the initiator
    fails too, nobody obtains session keys. -/
theorem xx_wrong_pw (ci cr : Cfg) (hpw : ci.pw ≠ cr.pw) :
    failed (run xxPattern ci cr noMitm).1 = true ∧ failed (run xxPattern ci cr noMitm).2 = true ∧
    responderWroteNothing xxPattern (run xxPattern ci cr noMitm).2 = true := by
  refine run_first_rejected rfl rfl rfl fun i r hi hr w' fields hw => ?_
  obtain ⟨_, hi', hih, _, hipw⟩ := initSt_xx true ci.ls ci.le ci.rs ci.pw ci.payload ci.minV ci.maxV
  obtain ⟨_, hr', hrh, _, hrpw⟩ := initSt_xx false cr.ls cr.le cr.rs cr.pw cr.payload cr.minV cr.maxV
  cases hi.symm.trans hi'
  cases hr.symm.trans hr'
  obtain ⟨c, rfl, had, _⟩ := write_act1_xx i w' fields hw
  exact read_act1_xx_wrong_pw r i.version i.le i.pw c (hipw ▸ hrpw ▸ hpw) (by rw [had, hih, hrh])

theorem initSt_kk (initiator : Bool) (ls le : Nat) (rs : Pt) (pw : Nat) (pl : Option Bytes) (a b : Nat)
    (st : St) (h : initSt kkPattern initiator ls le (some rs) pw pl a b = .ok st) :
    st.h = [.proto true, .prologue] ++ (if initiator then [.pt (.pub ls), .pt rs] else [.pt rs, .pt (.pub ls)]) ∧
      st.le = le ∧ st.ls = ls ∧ st.rs = some rs ∧ st.initiator = initiator := by
  obtain ⟨_, _, h⟩ := bind_eq_ok h
  -- once `initiator` is known the fold over the two pre-messages computes
  cases initiator
  · cases h
    exact ⟨rfl, rfl, rfl, rfl, rfl⟩
  · cases h
    exact ⟨rfl, rfl, rfl, rfl, rfl⟩

/-- shape of what the initiator puts on the wire in KK act 1 -/
theorem write_act1_kk (st st' : St) (fields : List Field) (hi : st.initiator = true)
    (h : writeMsg st act1kk = .ok (st', fields)) :
    ∃ c : Ct, fields = [.ver st.version, .point (some (.pub st.le)), .ct (.hon c)] ∧
      c.ad = st.h ++ [.pt (.pub st.le)] := by
  obtain ⟨sto, out, ht, rfl, rfl⟩ := writeMsg_single (by decide) h
  obtain ⟨st1, h1, ht⟩ := bind_eq_ok ht
  obtain ⟨st2, h2, ht⟩ := bind_eq_ok ht
  cases ht
  obtain ⟨s1, rfl⟩ := dhToken_ok h1
  obtain ⟨s2, rfl⟩ := dhToken_ok h2
  exact ⟨_, rfl, rfl⟩

/-- a responder whose transcript prefix differs from the initiator's rejects act 1 -/
theorem read_act1_kk_mismatch (r : St) (v le : Nat) (c : Ct) (hh : List Tok) (hne : hh ≠ r.h)
    (rs : Pt) (hrs : r.rs = some rs) (hi : r.initiator = false)
    (had : c.ad = hh ++ [.pt (.pub le)]) :
    ∃ e, readMsg r act1kk [.ver v, .point (some (.pub le)), .ct (.hon c)] = .error e := by
  refine readMsg_rejects (by decide) fun ver st c' ht had' => ?_
  obtain ⟨st1, h1, ht⟩ := bind_eq_ok ht
  obtain ⟨st2, h2, ht⟩ := bind_eq_ok ht
  cases ht
  obtain ⟨s1, rfl⟩ := dhToken_ok h1
  obtain ⟨s2, rfl⟩ := dhToken_ok h2
  -- the DH tokens leave the digest alone: the responder reached `r.h ++ [e]`
  have hpre : hh ++ [Tok.pt (.pub le)] = r.h ++ [Tok.pt (.pub le)] := had.symm.trans had'
  exact hne (List.append_cancel_right hpre)

/-- **Repeat (KK) handshake**: if the responder's stored initiator key is not the
    initiator's static key, or the initiator's stored responder key is not the
    responder's, then — for all keys, version ranges and payloads — the
    responder fails in act 1 without having written anything, and the initiator
    fails too. -/
theorem kk_wrong_expected (ci cr : Cfg) (rsI rsR : Pt) (hci : ci.rs = some rsI) (hcr : cr.rs = some rsR)
    (hmis : rsR ≠ .pub ci.ls ∨ rsI ≠ .pub cr.ls) :
    failed (run kkPattern ci cr noMitm).1 = true ∧ failed (run kkPattern ci cr noMitm).2 = true ∧
    responderWroteNothing kkPattern (run kkPattern ci cr noMitm).2 = true := by
  refine run_first_rejected rfl rfl rfl fun i r hi hr w' fields hw => ?_
  rw [hci] at hi
  rw [hcr] at hr
  obtain ⟨hih, _, _, _, hiinit⟩ := initSt_kk true _ _ _ _ _ _ _ i hi
  obtain ⟨hrh, _, _, hrrs, hrinit⟩ := initSt_kk false _ _ _ _ _ _ _ r hr
  -- the two sides mixed different pre-message keys into their digests
  have hne : i.h ≠ r.h := by
    rw [hih, hrh]
    intro h
    cases List.append_cancel_left h
    exact hmis.elim (· rfl) (· rfl)
  obtain ⟨c, rfl, had⟩ := write_act1_kk i w' fields hiinit hw
  exact read_act1_kk_mismatch r i.version i.le c i.h hne rsR hrrs hrinit had

/-- the responder of both patterns reads before it writes: its first write is in
    act 2, after act 1 has authenticated (structural, from the pattern data) -/
theorem responder_reads_first :
    (xxPattern.msgs.head?.map (·.initiator)) = some true ∧ (kkPattern.msgs.head?.map (·.initiator)) = some true := by
  decide

/-- KK needs handshake version 2 (NewBrontideMachine) -/
theorem kk_requires_v2 (i : Bool) (ls le : Nat) (rs : Option Pt) (pw : Nat) (pl : Option Bytes) (a b : Nat)
    (hb : b < 2) : ∃ e, initSt kkPattern i ls le rs pw pl a b = .error e := by
  have hkk : kkPattern.kk = true := rfl
  unfold initSt
  rw [if_pos hkk, if_pos hb]
  exact ⟨_, rfl⟩

/-! ### the positive direction and non-vacuity (closed instances: key ids 1..4,
    passphrase 7, a 40 byte auth payload; all 81 version ranges) -/

def ranges : List (Nat × Nat × Nat × Nat) :=
  (List.range 3).flatMap fun a => (List.range 3).flatMap fun b => (List.range 3).flatMap fun c =>
    (List.range 3).map fun d => (a, b, c, d)

def demoI (a b : Nat) (rs : Option Pt) : Cfg := ⟨1, 2, rs, 7, none, a, b⟩
def demoR (c d : Nat) (rs : Option Pt) : Cfg := ⟨3, 4, rs, 7, some (List.replicate 40 5), c, d⟩

def bothOk : SideRes × SideRes → Bool
  | (.ok _, .ok _) => true
  | _ => false

/-- with the same passphrase an XX handshake completes exactly when the
    responder's maximum version lies in the initiator's range and the
    initiator's minimum in the responder's -/
theorem xx_right_pw_completes_table :
    ranges.all (fun (a, b, c, d) =>
      bothOk (run xxPattern (demoI a b none) (demoR c d none) noMitm) ==
        (decide (c ≤ a ∧ a ≤ d ∧ a ≤ d ∧ d ≤ b))) = true := by decide +kernel

/-- with the right stored keys a KK handshake completes whenever both sides support version 2 -/
theorem kk_right_keys_complete_table :
    ranges.all (fun (a, b, c, d) =>
      bothOk (run kkPattern (demoI a b (some (.pub 3))) (demoR c d (some (.pub 1))) noMitm) ==
        (decide (b = 2 ∧ d = 2))) = true := by decide +kernel

end Lnc.Props.C03
