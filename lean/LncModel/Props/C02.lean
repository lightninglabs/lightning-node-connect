import LncModel.Record
/-
  C02 — Encrypted stream yields only a prefix of what the peer wrote, else an
  error.
-/
namespace Lnc.Props.C02
open Lnc Lnc.Mailbox.Record

/-- reader invariant while no error has occurred: it has consumed an even
    number of cipher uses, i.e. it sits at a record boundary -/
def AtBoundary (r : Reader) : Prop := r.failed = false → r.use % 2 = 0

theorem readMessage_latched (recs : List Bytes) (r : Reader) (wire : List SByte) (h : r.failed = true) :
    readMessage recs r wire = (.err, r, wire) :=
  if_pos h

theorem readMessage_exits (recs : List Bytes) (r : Reader) (wire : List SByte) :
    match readMessage recs r wire with
    | (.ok j, r', _) => r.failed = false ∧ j = r.use / 2 ∧ r' = { r with use := r.use + 2 }
    | (.err, r', _) => r'.failed = true ∨ r' = r := by
  obtain ⟨dir, use, failed⟩ := r
  unfold readMessage
  cases failed
  case true => exact .inl rfl
  rw [if_neg Bool.false_ne_true]
  cases pauseAt hdrLen wire
  case some i =>
    cases i with
    | zero => exact .inr rfl
    | succ i => exact .inl (decide_eq_true (Nat.succ_pos i))
  dsimp only
  by_cases h1 : wire.length < hdrLen
  · rw [if_pos h1]
    cases wire with
    | nil => exact .inr rfl
    | cons b w => exact .inl rfl
  rw [if_neg h1]
  cases opens recs dir use (wire.take hdrLen)
  case false => exact .inl rfl
  rw [if_neg (by simp)]
  cases recs[use / 2]?
  case none => exact .inl rfl
  case some p =>
  dsimp only
  cases pauseAt (p.length + macSize) (wire.drop hdrLen)
  case some i => exact .inl rfl
  dsimp only
  by_cases h4 : (wire.drop hdrLen).length < p.length + macSize
  · rw [if_pos h4]
    exact .inl rfl
  rw [if_neg h4]
  cases opens recs dir (use + 1) ((wire.drop hdrLen).take (p.length + macSize))
  case false => exact .inl rfl
  exact ⟨rfl, rfl, rfl⟩

theorem readMessage_ok (recs : List Bytes) (r : Reader) (wire : List SByte) (j : Nat)
    (h : (readMessage recs r wire).1 = .ok j) :
    j = r.use / 2 ∧ (readMessage recs r wire).2.1.use = r.use + 2 ∧
      (readMessage recs r wire).2.1.failed = false ∧ r.failed = false := by
  have e := readMessage_exits recs r wire
  generalize readMessage recs r wire = x at h e ⊢
  obtain ⟨_ | _, r', w'⟩ := x
  · cases h
    obtain ⟨hf, rfl, rfl⟩ := e
    exact ⟨rfl, rfl, hf, hf⟩
  · cases h

/-- after an error the reader is latched, or the wire is exhausted, or — a
    timeout before the first byte of a record — nothing has changed at all -/
theorem readMessage_err (recs : List Bytes) (r : Reader) (wire : List SByte)
    (h : (readMessage recs r wire).1 = .err) :
    (readMessage recs r wire).2.1.failed = true ∨ (readMessage recs r wire).2.2 = [] ∨
      (readMessage recs r wire).2.1 = r := by
  have e := readMessage_exits recs r wire
  generalize readMessage recs r wire = x at h e ⊢
  obtain ⟨_ | _, r', w'⟩ := x
  · cases h
  · exact e.imp_right .inr

theorem oks_readLoop_latched (recs : List Bytes) (fuel : Nat) (r : Reader) (wire : List SByte)
    (h : r.failed = true) : oks (readLoop recs fuel r wire) = [] := by
  induction fuel with
  | zero => rfl
  | succ fuel ih =>
    unfold readLoop
    split
    · rfl
    · rw [readMessage_latched recs r wire h]
      exact ih

theorem oks_readLoop_range' (recs : List Bytes) (fuel : Nat) (r : Reader) (wire : List SByte)
    (hb : r.use % 2 = 0) : ∃ n, oks (readLoop recs fuel r wire) = List.range' (r.use / 2) n := by
  induction fuel generalizing r wire with
  | zero => exact ⟨0, rfl⟩
  | succ fuel ih =>
    unfold readLoop
    split
    · exact ⟨0, rfl⟩
    have e := readMessage_exits recs r wire
    generalize readMessage recs r wire = x at e ⊢
    obtain ⟨_ | _, r', w'⟩ := x
    · obtain ⟨_, rfl, rfl⟩ := e
      obtain ⟨n, hn⟩ := ih { r with use := r.use + 2 } w' ((Nat.add_mod_right _ _).trans hb)
      rw [Nat.add_div_right _ (by decide)] at hn
      exact ⟨n + 1, congrArg (r.use / 2 :: ·) hn⟩
    · rcases e with hl | rfl
      · exact ⟨0, oks_readLoop_latched recs fuel r' w' hl⟩
      · exact ih r' w' hb

/-- **Whatever the relay does to the ciphertext, the records returned as valid —
    by any number of ReadMessage calls, also calls made after an error — are
    0, 1, 2, …, m-1 in this order: a prefix of what the authentic peer wrote in
    this direction.**  Altered, replayed, reordered or cross-direction data is
    never returned as valid, and nothing is returned after the first error —
    except after a read deadline that expired before any byte of a record was
    consumed, where the retry continues with the very next record. -/
theorem C02_prefix (recs : List Bytes) (fuel : Nat) (r : Reader) (wire : List SByte)
    (hb : r.use % 2 = 0) :
    oks (readLoop recs fuel r wire) =
      (List.range (oks (readLoop recs fuel r wire)).length).map (· + r.use / 2) := by
  obtain ⟨n, hn⟩ := oks_readLoop_range' recs fuel r wire hb
  rw [hn, List.length_range', List.range'_eq_map_range]
  exact List.map_congr_left fun a _ => Nat.add_comm _ _

theorem filterMap_getElem_range {α : Type} (l : List α) (m : Nat) :
    (List.range m).filterMap (fun j => l[j]?) = l.take m := by
  induction m with
  | zero => rfl
  | succ m ih =>
    rw [List.range_succ, List.filterMap_append, ih, List.take_add_one, List.filterMap_cons]
    cases l[m]? <;> rfl

/-- corollary in the property's words: the plaintexts returned are a prefix of
    the plaintexts written -/
theorem C02_plaintext_prefix (recs : List Bytes) (fuel : Nat) (dir : Nat) (wire : List SByte) :
    (oks (readLoop recs fuel ⟨dir, 0, false⟩ wire)).filterMap (fun j => recs[j]?) <+: recs := by
  obtain ⟨n, hn⟩ := oks_readLoop_range' recs fuel ⟨dir, 0, false⟩ wire rfl
  rw [hn, show (⟨dir, 0, false⟩ : Reader).use / 2 = 0 from Nat.zero_div 2, ← List.range_eq_range',
    filterMap_getElem_range]
  exact List.take_prefix _ _

/-! ### the behaviour before the repair, kept as a model of what the sticky
    error prevents: without the latch a dropped record followed by two junk
    headers re-synchronises the nonce and record 1 is accepted although record
    0 never arrived. -/
def readMessageNoLatch (recs : List Bytes) (r : Reader) (wire : List SByte) : Res × Reader × List SByte :=
  let (res, r', w') := readMessage recs { r with failed := false } wire
  (res, { r' with failed := false }, w')

def resyncWire : List SByte :=
  List.replicate 18 .junk ++ List.replicate 18 .junk ++ unitBytes 0 2 18 ++ unitBytes 0 3 (3 + 16)

theorem no_latch_resync_counterexample :
    let recs : List Bytes := [[1, 2], [7, 8, 9]]
    let s1 := readMessageNoLatch recs ⟨0, 0, false⟩ resyncWire
    let s2 := readMessageNoLatch recs s1.2.1 s1.2.2
    let s3 := readMessageNoLatch recs s2.2.1 s2.2.2
    (s1.1, s2.1, s3.1) = (.err, .err, .ok 1) := by decide +kernel

/-- with the latch the same wire yields nothing -/
example : oks (readLoop [[1, 2], [7, 8, 9]] 10 ⟨0, 0, false⟩ resyncWire) = [] := by decide +kernel

/-! ### a read deadline inside a record, before repair 98daed6

    `ReadHeader`/`ReadBody` do not remember how far a read got.  Before the
    repair a body read that timed out left the reader unlatched with the
    header's nonce spent (`use` odd).  The next `ReadMessage` then takes the
    body unit for a header: a body of 2 + 16 bytes has the size of a header and
    authenticates under the nonce the reader is at; its plaintext is read as a
    length, and when that plaintext is `00 02` the following 18 bytes — the
    honest header of the next record — authenticate as the body.  The reader
    returns the next record's length field as data.  (Found by a seeding
    sub-agent reading the unchanged code, exhibited on the real code by the
    `read-timeout` cases of the C02 check, repaired; `readMessage` above latches
    on every read that fails inside a record, which keeps `use` even in every
    unlatched state — `readMessage_err`.) -/
def lenAsHeader (recs : List Bytes) (use : Nat) : Option Nat :=
  match recs[use / 2]? with
  | some p => if use % 2 = 0 then some p.length else
      (match p with | [a, b] => some (a.toNat * 256 + b.toNat) | _ => none)
  | none => none

theorem read_timeout_counterexample :
    let recs : List Bytes := [[0, 2], [7, 8, 9, 1, 2]]
    let w := unitBytes 0 1 18 ++ unitBytes 0 2 18 ++ unitBytes 0 3 21   -- what follows the timed-out header of record 0
    opens recs 0 1 (w.take hdrLen) = true ∧
    lenAsHeader recs 1 = some 2 ∧
    opens recs 0 2 ((w.drop hdrLen).take (2 + macSize)) = true := by decide +kernel

/-- after the repair the same stream, with the pause mark where the deadline
    expired, yields an error and nothing else; a deadline that expires between
    two records is harmless -/
example : oks (readLoop [[0, 2], [7, 8, 9, 1, 2]] 10 ⟨0, 0, false⟩
    (unitBytes 0 0 18 ++ [.pause] ++ unitBytes 0 1 18 ++ unitBytes 0 2 18 ++ unitBytes 0 3 21)) = [] := by decide +kernel
example : readLoop [[0, 2], [7, 8, 9, 1, 2]] 10 ⟨0, 0, false⟩
    (unitBytes 0 0 18 ++ unitBytes 0 1 18 ++ [.pause] ++ unitBytes 0 2 18 ++ unitBytes 0 3 21) = [.ok 0, .err, .ok 1] := by decide +kernel

/-! non-vacuity: an honest stream of two records is returned in full; a replay
    of record 0 after it is rejected -/
example : oks (readLoop [[1, 2], [7, 8, 9]] 10 ⟨0, 0, false⟩
    (unitBytes 0 0 18 ++ unitBytes 0 1 18 ++ unitBytes 0 2 18 ++ unitBytes 0 3 19)) = [0, 1] := by decide +kernel
example : oks (readLoop [[1, 2], [7, 8, 9]] 10 ⟨0, 0, false⟩
    (unitBytes 0 0 18 ++ unitBytes 0 1 18 ++ unitBytes 0 0 18 ++ unitBytes 0 1 18 ++ unitBytes 0 2 18 ++ unitBytes 0 3 19)) = [0] := by decide +kernel

end Lnc.Props.C02
