import LncModel.Timeout
import LncModel.Proofs.Logic
/-
  C20 — Adaptive resend timeout stays within its bounds.
  All theorems hold for every event list (arbitrary inter-event times), every
  multiplier, update frequency and boost increment function `inc` with
  `0 ≤ inc o c` and `inc o 0 = 0` (Go's float32 expression is one instance;
  the correspondence run checks the two facts on every sampled value).
-/
namespace Lnc.Props.C20
open Lnc.Gbn.Timeout

def run (m : TM) (evs : List Ev) : TM := evs.foldl TM.step m

/-- **A statically configured timeout is never changed by traffic** (nor is
    any other field of the manager). -/
theorem static_step (m : TM) (h : m.static = true) (e : Ev) : m.step e = m := by
  cases e <;> exact if_pos h

theorem static_const (inc : Dur → Nat → Dur) (m : TM) (h : m.static = true) (evs : List Ev) :
    run m evs = m ∧ (run m evs).getResend inc = m.getResend inc := by
  have : run m evs = m :=
    List.foldlRecOn (motive := (· = m)) evs TM.step rfl fun m' hm e _ => by rw [hm, static_step m h e]
  rw [this]; exact ⟨rfl, rfl⟩

theorem boost_cases (b : Booster) (t : Time) :
    b.boost t = b ∨
    (b.boost t = { b with lastBoost := some t, boostCount := b.boostCount + 1 } ∧
      (b.withLimit = true → ∀ lb, b.lastBoost = some lb → b.original ≤ t - lb)) := by
  obtain ⟨c, o, limited, last⟩ := b
  cases limited with
  | false => exact .inr ⟨rfl, nofun⟩
  | true =>
    cases last with
    | none => exact .inr ⟨rfl, fun _ _ h => nomatch h⟩
    | some lb =>
      by_cases h : t - lb < o
      · exact .inl (if_pos h)
      · exact .inr ⟨if_neg h, fun _ _ hlb => Option.some.inj hlb ▸ Int.not_lt.mp h⟩

theorem boost_original (b : Booster) (t : Time) : (b.boost t).original = b.original ∧
    (b.boost t).withLimit = b.withLimit := by
  rcases boost_cases b t with h | ⟨h, _⟩ <;> rw [h] <;> exact ⟨rfl, rfl⟩

theorem step_resend (m : TM) (e : Ev) :
    ((m.step e).resendB = m.resendB ∧ (m.step e).resendTimeout = m.resendTimeout) ∨
    (∃ seq t, e = .sent .data seq true t ∧ (m.step e).resendB = m.resendB.boost t ∧
      (m.step e).resendTimeout = m.resendTimeout) ∨
    (∃ k seq t t0, ∃ m' : TM, e = .received k seq t ∧
      ((k = .ack ∧ m.sentTimes seq = some t0) ∨ ((k = .syn ∨ k = .synack) ∧ m.latestSYN = some t0)) ∧
      m.step e = m'.update (t - t0) t ∧ m'.mult = m.mult ∧ m'.resendB = m.resendB) := by
  by_cases hst : m.static = true
  · rw [static_step m hst]; exact .inl ⟨rfl, rfl⟩
  -- in adaptive mode the step is the `else` branch of `sent` / `received`; once the kind (and what
  -- the branch tests) is known it computes, and every case holds by `rfl`
  generalize hm1 : m.step e = m1
  cases e <;> replace hm1 : _ = m1 := (if_neg hst).symm.trans hm1
  case sent k s r t =>
    cases k <;> cases r <;> subst hm1
    case data.true => exact .inr (.inl ⟨s, t, rfl, rfl, rfl⟩)
    all_goals exact .inl ⟨rfl, rfl⟩
  case received k s t =>
    cases k
    case syn | synack =>
      cases h0 : m.latestSYN <;> rw [h0] at hm1 <;> subst hm1
      · exact .inl ⟨rfl, rfl⟩
      · exact .inr (.inr ⟨_, s, t, _, _, rfl, .inr ⟨by decide, rfl⟩, rfl, rfl, rfl⟩)
    case ack =>
      cases h0 : m.sentTimes s <;> rw [h0] at hm1
      · subst hm1; exact .inl ⟨rfl, rfl⟩
      · rcases ite_eq_cases hm1 with ⟨_, rfl⟩ | ⟨_, rfl⟩
        · exact .inr (.inr ⟨_, s, t, _, _, rfl, .inl ⟨rfl, h0⟩, rfl, rfl, rfl⟩)
        · exact .inl ⟨rfl, rfl⟩
    all_goals subst hm1; exact .inl ⟨rfl, rfl⟩

/-! ### floor -/

def FloorInv (m : TM) : Prop :=
  minimumResendTimeout ≤ m.resendB.original ∧ m.resendB.original = m.resendTimeout ∧
    m.resendB.withLimit = true

theorem update_floor (m : TM) (rt : Dur) (now : Time) (hw : m.resendB.withLimit = true) :
    FloorInv (m.update rt now) := by
  refine ⟨?_, rfl, hw⟩
  show minimumResendTimeout ≤
    if wrap64 (m.mult * rt) < minimumResendTimeout then minimumResendTimeout else wrap64 (m.mult * rt)
  split
  · exact Int.le_refl _
  · next h => exact Int.not_lt.mp h

theorem floor_step (m : TM) (h : FloorInv m) (e : Ev) : FloorInv (m.step e) := by
  rcases step_resend m e with ⟨hb, ht⟩ | ⟨_, t, _, hb, ht⟩ | ⟨_, _, _, _, m', _, _, hu, _, hb⟩
  · unfold FloorInv; rw [hb, ht]; exact h
  · unfold FloorInv; rw [hb, ht, (boost_original _ t).1, (boost_original _ t).2]; exact h
  · rw [hu]; exact update_floor m' _ _ (hb ▸ h.2.2)

theorem floorInv_run (m : TM) (h : FloorInv m) (evs : List Ev) : FloorInv (run m evs) :=
  List.foldlRecOn evs TM.step h fun m hm e _ => floor_step m hm e

/-- **In adaptive mode the resend timeout is never below the one-second floor**,
    after every prefix of every history. -/
theorem floor (inc : Dur → Nat → Dur) (hinc : ∀ o c, 0 ≤ inc o c) (m : TM) (h : FloorInv m)
    (evs : List Ev) : minimumResendTimeout ≤ (run m evs).getResend inc :=
  Int.le_trans (floorInv_run m h evs).1 (Int.le_add_of_nonneg_right (hinc _ _))

/-- the manager built by NewTimeOutManager in adaptive mode with the default
    (or any ≥ 1 s) initial timeout satisfies the invariant -/
theorem new_floor (resend handshake : Dur) (mult : Int) (freq : Nat) (h : minimumResendTimeout ≤ resend) :
    FloorInv (TM.new false resend handshake mult freq) := ⟨h, rfl, rfl⟩

/-! ### recomputed only from samples of packets that were not retransmitted -/

/-- the clean round-trip sample on record for `seq` after a history: the time of
    the latest first transmission of `seq` that was neither followed by a
    retransmission of `seq` nor already consumed by an ACK of `seq` -/
def cleanSample (evs : List Ev) (seq : Nat) : Option Time :=
  evs.foldl (fun acc e => match e with
    | .sent .data s false t => if s = seq then some t else acc
    | .sent .data s true _ => if s = seq then none else acc
    | .received .ack s _ => if s = seq then none else acc
    | _ => acc) none

@[simp] theorem update_sentTimes (m : TM) (rt : Dur) (now : Time) : (m.update rt now).sentTimes = m.sentTimes := rfl
@[simp] theorem update_static (m : TM) (rt : Dur) (now : Time) : (m.update rt now).static = m.static := rfl

theorem sentTimes_step (m : TM) (hs : m.static = false) (e : Ev) (seq : Nat) :
    (m.step e).sentTimes seq = (match e with
      | .sent .data s false t => if s = seq then some t else m.sentTimes seq
      | .sent .data s true _ => if s = seq then none else m.sentTimes seq
      | .received .ack s _ => if s = seq then none else m.sentTimes seq
      | _ => m.sentTimes seq) ∧ (m.step e).static = false := by
  have hst := ne_true_of_eq_false hs
  have hflip (s : Nat) (a b : Option Time) : (if seq = s then a else b) = if s = seq then a else b :=
    ite_congr (propext eq_comm) (fun _ => rfl) (fun _ => rfl)
  generalize hm1 : m.step e = m1
  cases e <;> replace hm1 : _ = m1 := (if_neg hst).symm.trans hm1
  case sent k s r t =>
    cases k <;> cases r <;> subst hm1
    case data.false | data.true => exact ⟨hflip .., hs⟩
    all_goals exact ⟨rfl, hs⟩
  case received k s t =>
    cases k
    case syn | synack => cases h0 : m.latestSYN <;> rw [h0] at hm1 <;> subst hm1 <;> exact ⟨rfl, hs⟩
    case ack =>
      cases h0 : m.sentTimes s <;> rw [h0] at hm1
      · subst hm1
        exact ⟨(ite_eq_right_iff.mpr fun h => h ▸ h0.symm).symm, hs⟩
      · rcases ite_eq_cases hm1 with ⟨_, rfl⟩ | ⟨_, rfl⟩ <;> exact ⟨hflip .., hs⟩
    all_goals subst hm1; exact ⟨rfl, hs⟩

/-- the timestamp the manager keeps for `seq` is exactly the clean sample -/
theorem sentTimes_clean (m : TM) (hs : m.static = false) (evs : List Ev) (seq : Nat) :
    (run m evs).sentTimes seq =
      evs.foldl (fun acc e => match e with
        | .sent .data s false t => if s = seq then some t else acc
        | .sent .data s true _ => if s = seq then none else acc
        | .received .ack s _ => if s = seq then none else acc
        | _ => acc) (m.sentTimes seq) := by
  induction evs generalizing m with
  | nil => rfl
  | cons e es ih =>
    have h := sentTimes_step m hs e seq
    exact (ih (m.step e) h.2).trans (congrArg (es.foldl _) h.1)

/-- **whenever the base resend timeout changes at an event, the event is the
    reception of an ACK (or SYN/SYNACK) for which a clean sample `t₀` is on
    record, and the new value is `max 1s (mult · (t − t₀))`** -/
theorem recompute_only_from_clean_sample (m : TM) (e : Ev)
    (hch : (m.step e).resendB.original ≠ m.resendB.original ∨ (m.step e).resendTimeout ≠ m.resendTimeout) :
    ∃ k seq t t0, e = .received k seq t ∧
      ((k = .ack ∧ m.sentTimes seq = some t0) ∨ ((k = .syn ∨ k = .synack) ∧ m.latestSYN = some t0)) ∧
      (m.step e).resendTimeout =
        (if wrap64 (m.mult * (t - t0)) < minimumResendTimeout then minimumResendTimeout
         else wrap64 (m.mult * (t - t0))) ∧
      (m.step e).resendB.original = (m.step e).resendTimeout ∧
      (m.step e).resendB.boostCount = 0 := by
  rcases step_resend m e with ⟨hb, ht⟩ | ⟨_, t, _, hb, ht⟩ | ⟨k, seq, t, t0, m', he, h0, hu, hmult, _⟩
  · rw [hb, ht] at hch; exact hch.elim (absurd rfl) (absurd rfl)
  · rw [hb, ht, (boost_original _ t).1] at hch; exact hch.elim (absurd rfl) (absurd rfl)
  · refine ⟨k, seq, t, t0, he, h0, ?_⟩
    rw [hu, ← hmult]
    exact ⟨rfl, rfl, rfl⟩

/-! ### boosts -/

/-- **each event raises the boost count by at most one, only a retransmitted
    DATA packet raises it, and (the resend booster being rate limited) only when
    at least one base-timeout interval has passed since the last boost or
    recompute** -/
theorem boost_rate (m : TM) (hl : m.resendB.withLimit = true) (e : Ev)
    (hinc : (m.step e).resendB.boostCount > m.resendB.boostCount) :
    (m.step e).resendB.boostCount = m.resendB.boostCount + 1 ∧
    (∃ seq t, e = .sent .data seq true t ∧ (m.step e).resendB.lastBoost = some t ∧
      (m.step e).resendB.original = m.resendB.original ∧
      (∀ lb, m.resendB.lastBoost = some lb → m.resendB.original ≤ t - lb)) := by
  rcases step_resend m e with ⟨hb, _⟩ | ⟨seq, t, he, hb, _⟩ | ⟨_, _, _, _, m', _, _, hu, _, _⟩
  · rw [hb] at hinc; exact absurd hinc (Nat.lt_irrefl _)
  · rw [hb] at hinc ⊢
    rcases boost_cases m.resendB t with h | ⟨h, hrate⟩
    · rw [h] at hinc; exact absurd hinc (Nat.lt_irrefl _)
    · rw [h]; exact ⟨rfl, seq, t, he, rfl, rfl, hrate hl⟩
  · rw [hu] at hinc; exact absurd hinc (Nat.not_lt_zero _)

/-- **a fresh sample returns the timeout to the measured value** -/
theorem fresh_sample_resets (inc : Dur → Nat → Dur) (hinc0 : ∀ o, inc o 0 = 0) (m : TM) (rt : Dur) (now : Time) :
    (m.update rt now).resendB.boostCount = 0 ∧
    (m.update rt now).getResend inc = (m.update rt now).resendTimeout :=
  ⟨rfl, (congrArg (_ + ·) (hinc0 _)).trans (Int.add_zero _)⟩

/-! non-vacuity: a concrete adaptive history — first transmission, clean ACK after
    300 ms (timeout 5·0.3 s = 1.5 s), a retransmission boosts, the ACK of the
    retransmitted packet does not recompute, a second retransmission within the
    base interval does not boost again. -/
def incHalf (o : Dur) (c : Nat) : Dur := o * c / 2
def demo : List Ev :=
  [.sent .data 0 false 0, .received .ack 0 300000000, .sent .data 1 false 400000000,
   .sent .data 1 true 2000000000, .received .ack 1 2100000000, .sent .data 2 false 2200000000,
   .sent .data 2 true 2300000000]
example : let m := run (TM.new false 1000000000 1000000000 5 100) demo
    (m.resendTimeout, m.resendB.boostCount, m.getResend incHalf) = (1500000000, 1, 2250000000) := by decide

end Lnc.Props.C20
