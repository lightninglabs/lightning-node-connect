import LncModel.Handshake
/-
  C10, convergence: once the channel behaves, one clean exchange SYN / SYN /
  SYNACK completes the handshake from every state the two automata can be in
  while they are still trying — whatever losses, timeouts and restarts came
  before.
-/
namespace Lnc.Props.C10
open Lnc Lnc.Gbn Lnc.Gbn.Hs

-- SYN and SYNACK have a fixed shape and the decoder runs on them as they stand; the DATA
-- guard `g` is not consulted
theorem deser_syn (g : Nat) (x : UInt8) : deserializeG g (serialize (.syn x)) = .ok (.syn x) := rfl

theorem deser_synack (g : Nat) : deserializeG g (serialize .synack) = .ok .synack := rfl

theorem toNat_ofNat_of_valid (N : Nat) (h : validN N = true) : (UInt8.ofNat N).toNat = N :=
  UInt8.toNat_ofNat_of_lt' (Nat.lt_of_le_of_lt (of_decide_eq_true h).2 (by decide))

theorem srvStep_syn (g N : Nat) (hN : validN N = true) (resent : Bool) (n0 : Nat) :
    (srvStep g (.s0 resent n0) (.recv (serialize (.syn (UInt8.ofNat N))))).1 = .s1 resent N ∧
    (srvStep g (.s1 resent n0) (.recv (serialize (.syn (UInt8.ofNat N))))).1 = .s1 true N := by
  simp only [srvStep, deser_syn, srvOnSyn, toNat_ofNat_of_valid N hN, hN, if_true, and_self]

theorem srvStep_synack (g n : Nat) (resent : Bool) :
    (srvStep g (.s1 resent n) (.recv (serialize .synack))).1 = .done n ∧
    (srvStep g (.s0 true n) (.recv (serialize .synack))).1 = .done n :=
  ⟨rfl, rfl⟩

/-- **server side**: from "waiting for a SYN" or "waiting for the SYNACK", in
    any restart state and with any window left over from earlier attempts, the
    client's SYN followed by its SYNACK puts the server in the data phase with
    the client's window -/
theorem server_converges (g N : Nat) (hN : validN N = true) (resent : Bool) (n0 : Nat) :
    srvRun g (.s0 resent n0) [.recv (serialize (.syn (UInt8.ofNat N))), .recv (serialize .synack)] = .done N ∧
    srvRun g (.s1 resent n0) [.recv (serialize (.syn (UInt8.ofNat N))), .recv (serialize .synack)] = .done N := by
  obtain ⟨h0, h1⟩ := srvStep_syn g N hN resent n0
  simp only [srvRun, List.foldl_cons, List.foldl_nil, h0, h1, srvStep_synack, and_self]

/-- **client side**: while it is waiting (after any number of timeouts and
    re-sent SYNs) the server's echo of its window completes it -/
theorem client_converges (g N : Nat) (hN : validN N = true) (k : Nat) :
    cliRun g (.waiting N) (List.replicate k .timeout ++ [.recv (serialize (.syn (UInt8.ofNat N)))]) = .done N := by
  induction k with
  | zero =>
    show (cliStep g (.waiting N) (.recv (serialize (.syn (UInt8.ofNat N))))).1 = .done N
    simp only [cliStep, deser_syn, toNat_ofNat_of_valid N hN, if_true]
  -- a timeout leaves the waiting client as it is, so the run unfolds to the one with `k` timeouts
  | succ k ih => exact ih

/-- and a timed-out server that sees a DATA packet or a SYNACK of the client (which
    completed on an earlier echo) completes too, with the window it echoed -/
theorem restarted_server_completes (g n : Nat) :
    srvRun g (.s1 false n) [.timeout, .recv (serialize .synack)] = .done n :=
  (srvStep_synack g n false).2

example : validN 20 = true := by decide

end Lnc.Props.C10
