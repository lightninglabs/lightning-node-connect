import LncModel.Endpoint
import LncModel.MsgData
import LncModel.Proofs.QueueArith
/-
  C07 — No bytes delivered by the untrusted relay can crash an endpoint
  (GBN decoders, window bookkeeping, control-message framing).
-/
namespace Lnc.Props.C07
open Lnc Lnc.Gbn Lnc.Mailbox

theorem bind_idx_no_panic {α} (b : Bytes) (i : Nat) (h : i < b.length) (f : UInt8 → Outcome α)
    (hf : ∀ x, (f x).isPanic = false) : ((idx b i).bind f).isPanic = false := by
  unfold idx
  rw [List.getElem?_eq_getElem h]
  exact hf _

theorem bind_slice_no_panic {α} (b : Bytes) (i : Nat) (h : i ≤ b.length) (f : Bytes → Outcome α)
    (hf : ∀ x, (f x).isPanic = false) : ((sliceFrom b i).bind f).isPanic = false := by
  unfold sliceFrom
  rw [if_pos h]
  exact hf _

theorem isPanic_ite {α} {c : Prop} [Decidable c] {a b : Outcome α}
    (ha : c → a.isPanic = false) (hb : ¬ c → b.isPanic = false) :
    (if c then a else b).isPanic = false := by
  split
  next h => exact ha h
  next h => exact hb h

/-- **GBN Deserialize never panics**, for every byte string, provided the DATA
    guard covers the 4-byte header (obligation on the regenerated facts). -/
theorem gbn_deserialize_no_panic (g : Nat) (hg : 4 ≤ g) (b : Bytes) :
    (deserializeG g b).isPanic = false := by
  cases b with
  | nil => rfl
  | cons t rest =>
    -- ACK, NACK and SYN: a length test, then `b[1]`
    have two (f : UInt8 → Msg) : (if (t :: rest).length < 2 then Outcome.err "EOF"
        else (idx (t :: rest) 1).bind fun s => .ok (f s)).isPanic = false :=
      isPanic_ite (fun _ => rfl) fun h => bind_idx_no_panic _ _ (Nat.le_of_not_lt h) _ fun _ => rfl
    rw [deserializeG]
    refine isPanic_ite (fun _ => isPanic_ite (fun _ => rfl) fun hlen => ?_) fun _ => ?_
    · have h4 : 4 ≤ (t :: rest).length := Nat.le_trans hg (Nat.le_of_not_lt hlen)
      refine bind_idx_no_panic _ _ (by omega) _ fun _ => ?_
      refine bind_idx_no_panic _ _ (by omega) _ fun _ => ?_
      refine bind_idx_no_panic _ _ (by omega) _ fun _ => ?_
      exact bind_slice_no_panic _ _ h4 _ fun _ => rfl
    · refine isPanic_ite (fun _ => two _) fun _ => ?_
      refine isPanic_ite (fun _ => two _) fun _ => ?_
      refine isPanic_ite (fun _ => two _) fun _ => ?_
      refine isPanic_ite (fun _ => rfl) fun _ => ?_
      exact isPanic_ite (fun _ => rfl) fun _ => rfl

/-- the code before the repair: a 3-byte DATA packet panics when the guard is 3 -/
theorem gbn_deserialize_guard3_counterexample :
    (deserializeG 3 [2, 0, 1]).isPanic = true := by decide

theorem msgdata_deserialize_no_panic (recv : MsgData) (b : Bytes) :
    (MsgData.deserializeInto recv b).isPanic = false := by
  unfold MsgData.deserializeInto
  split
  · exact isPanic_ite (fun _ => rfl) fun _ => isPanic_ite (fun _ => rfl) fun _ => rfl
  · rfl

/-! ### window bookkeeping under arbitrary ACK/NACK values -/

def QWF (q : Queue) : Prop := 0 < q.s ∧ q.s ≤ 255 ∧ q.base < q.s ∧ q.top < q.s

theorem succ_mod_cases (b s : Nat) (h : b < s) :
    (b + 1 = s ∧ (b + 1) % s = 0) ∨ (b + 1 < s ∧ (b + 1) % s = b + 1) := by
  by_cases h1 : b + 1 = s
  · exact Or.inl ⟨h1, by rw [h1, Nat.mod_self]⟩
  · have h2 : b + 1 < s := Nat.lt_of_le_of_ne h h1
    exact Or.inr ⟨h2, Nat.mod_eq_of_lt h2⟩

theorem size_cases (s b t : Nat) (h : QWF ⟨s, b, t⟩) :
    (t ≥ b ∧ Queue.size ⟨s, b, t⟩ = t - b) ∨ (t < b ∧ Queue.size ⟨s, b, t⟩ = t + s - b) := by
  obtain ⟨_, h255, hb, ht⟩ := h
  have hs : s < 256 := Nat.lt_succ_of_le h255
  rcases Nat.lt_or_ge t b with h1 | h1
  · exact Or.inr ⟨h1, size_of_lt h1 (Nat.le_of_lt hb) hs⟩
  · exact Or.inl ⟨h1, size_of_le h1 (Nat.lt_trans ht hs)⟩

/-- **For every sequence number a relay can put into an ACK** (all 256 values,
    not only those an honest peer sends) processing is total, the bookkeeping
    stays inside the sequence space, and the window does not grow. -/
theorem processACK_total' (s b t : Nat) (h : QWF ⟨s, b, t⟩) (seq : Nat) :
    ∃ b' ok, Queue.processACK ⟨s, b, t⟩ seq = .ok (⟨s, b', t⟩, ok) ∧ QWF ⟨s, b', t⟩ ∧
      Queue.size ⟨s, b', t⟩ ≤ Queue.size ⟨s, b, t⟩ := by
  have ⟨h0, h255, hb, ht⟩ := h
  simp only at h0 h255 hb ht
  rw [processACK_eq]
  split
  · next hacc =>
    obtain ⟨hz, hseq, hin⟩ := hacc
    simp only at hz hseq hin
    have hq : QWF ⟨s, (seq + 1) % s, t⟩ := ⟨h0, h255, Nat.mod_lt _ h0, ht⟩
    refine ⟨(seq + 1) % s, true, by rw [add8_of_lt (by omega)], hq, ?_⟩
    -- the new base is one past a sequence number of the old, non-empty window
    have h1 := size_cases s b t h
    have h2 := size_cases s _ t hq
    have h3 := succ_mod_cases seq s hseq
    rw [containsSequence_true_iff] at hin
    omega
  · exact ⟨b, false, rfl, h, Nat.le_refl _⟩

theorem processNACK_total' (s b t : Nat) (h : QWF ⟨s, b, t⟩) (seq : Nat) :
    ∃ b', (Queue.processNACK ⟨s, b, t⟩ seq).1 = ⟨s, b', t⟩ ∧ QWF ⟨s, b', t⟩ ∧
      Queue.size ⟨s, b', t⟩ ≤ Queue.size ⟨s, b, t⟩ := by
  have ⟨h0, h255, hb, ht⟩ := h
  simp only at h0 h255 hb ht
  fun_cases Queue.processNACK ⟨s, b, t⟩ seq
  -- outside the sequence space, or not in the window: ignored
  case case1 | case3 => exact ⟨b, rfl, h, Nat.le_refl _⟩
  -- `top`: the window is emptied
  case case2 => exact ⟨t, rfl, ⟨h0, h255, ht, ht⟩, size_self s t ▸ Nat.zero_le _⟩
  -- a sequence number of the window becomes the base
  case case4 hge _ hc =>
    have hq : QWF ⟨s, seq, t⟩ := ⟨h0, h255, Nat.lt_of_not_ge hge, ht⟩
    refine ⟨seq, rfl, hq, ?_⟩
    have h1 := size_cases s b t h
    have h2 := size_cases s seq t hq
    simp only [Bool.not_eq_true', Bool.not_eq_false, containsSequence_true_iff] at hc
    omega

theorem processACK_total (q : Queue) (h : QWF q) (seq : Nat) :
    ∃ q' ok, q.processACK seq = .ok (q', ok) ∧ QWF q' ∧ q'.s = q.s ∧ q'.top = q.top ∧ q'.size ≤ q.size := by
  obtain ⟨s, b, t⟩ := q
  obtain ⟨b', ok, h1, h2, h3⟩ := processACK_total' s b t h seq
  exact ⟨_, ok, h1, h2, rfl, rfl, h3⟩

theorem processNACK_total (q : Queue) (h : QWF q) (seq : Nat) :
    QWF (q.processNACK seq).1 ∧ (q.processNACK seq).1.s = q.s ∧
      (q.processNACK seq).1.top = q.top ∧ (q.processNACK seq).1.size ≤ q.size := by
  obtain ⟨s, b, t⟩ := q
  obtain ⟨b', h1, h2, h3⟩ := processNACK_total' s b t h seq
  rw [h1]
  exact ⟨h2, rfl, rfl, h3⟩

/-- The code before the repair (no `seq ≥ s` test): a NACK carrying 200 on the
    wrapped window s=5, base=3, top=1 would have stored base=200.  The model
    with the test keeps it in range; the harness replays (5,3,1,200) on the real
    queue on every run. -/
example : (Queue.processNACK ⟨5, 3, 1⟩ 200).1 = ⟨5, 3, 1⟩ := by decide
example : containsSequence 3 1 200 = true := by decide

/-- **one data-phase iteration is total for every byte string**: the result is
    "ignored / state change" or "connection fails", never a panic, and the
    bookkeeping stays inside the sequence space. -/
theorem dataPhaseStep_total (g : Nat) (hg : 4 ≤ g) (st : EpState) (h : st.WF) (b : Bytes) :
    ∃ r, dataPhaseStep g st b = .ok r ∧
      ∀ st' reply d, r = .continue st' reply d → st'.WF := by
  have ⟨h0, h255, hb, ht, hr⟩ := h
  have hq : QWF st.q := ⟨h0, h255, hb, ht⟩
  -- ACK and NACK replace the queue by one over the same sequence space
  have wf_q {q' : Queue} (hq' : QWF q') (hs : q'.s = st.q.s) : EpState.WF { st with q := q' } :=
    ⟨hq'.1, hq'.2.1, hq'.2.2.1, hq'.2.2.2, hs ▸ hr⟩
  unfold dataPhaseStep decodeThen
  have hnp := gbn_deserialize_no_panic g hg b
  cases hd : deserializeG g b with
  | panic p =>
    rw [hd] at hnp
    cases hnp
  | err e => exact ⟨_, rfl, fun _ _ _ h => nomatch h⟩
  | ok m =>
    cases m with
    | data seq fin ping pl =>
      dsimp only
      by_cases hseq : msgU8 seq = st.recvSeq
      · rw [if_pos hseq, modS_of_pos _ h0]
        exact ⟨_, rfl, fun _ _ _ e => by cases e; exact ⟨h0, h255, hb, ht, Nat.mod_lt _ h0⟩⟩
      · rw [if_neg hseq]
        exact ⟨_, rfl, fun _ _ _ e => by cases e; exact h⟩
    | ack seq =>
      obtain ⟨q', _, he, hq', hs', _, _⟩ := processACK_total st.q hq (msgU8 seq)
      dsimp only
      rw [he]
      exact ⟨_, rfl, fun _ _ _ e => by cases e; exact wf_q hq' hs'⟩
    | nack seq =>
      have hn := processNACK_total st.q hq (msgU8 seq)
      exact ⟨_, rfl, fun _ _ _ e => by cases e; exact wf_q hn.1 hn.2.1⟩
    -- FIN, SYN and SYNACK close the connection
    | _ => exact ⟨_, rfl, fun _ _ _ h => nomatch h⟩

/-- a window size adopted from the wire always yields a usable sequence space -/
theorem adoptN_safe (n : Nat) (st : EpState) (h : adoptN n = .ok st) :
    st.WF ∧ 1 ≤ n ∧ n ≤ 254 ∧ st.q.s = n + 1 := by
  unfold adoptN at h
  split at h
  · cases h
  · next hn =>
    cases h
    have ⟨h1, h254⟩ : 1 ≤ n ∧ n ≤ 254 := by omega
    have hs : mkS n = n + 1 := mkS_of_le h254
    have hpos : 0 < mkS n := hs ▸ Nat.succ_pos n
    exact ⟨⟨hpos, hs ▸ Nat.succ_le_succ h254, hpos, hpos, hpos⟩, h1, h254, hs⟩

theorem adoptN_rejects : adoptN 0 = .err "invalid window size" ∧ adoptN 255 = .err "invalid window size" :=
  ⟨rfl, rfl⟩

end Lnc.Props.C07
