import LncModel.Proofs.QueueArith
/-
  C09 — "Send … blocks on the next one until an acknowledgement frees a slot":
  the flags the receive loop keys its wake-up signal on cover every response
  that changes the window.  `receivePacketsForever` raises `receivedACKSignal`
  when `processACK` returns true and when `processNACK` reports `bumped`
  (obligation `room_wakes_sender` on the regenerated skeleton; before repair
  611abab the NACK arm skipped the signal when no resend was needed).  The
  theorems: no ACK and no NACK changes the queue without reporting it, and the
  NACK that names the top of the queue — the one the old code forgot — empties
  the queue and reports it.
-/
namespace Lnc.Props.C09
open Lnc Lnc.Gbn

/-- an ACK that changes the queue is reported as valid -/
theorem ack_change_reported (q q' : Queue) (seq : Nat) (b : Bool)
    (h : q.processACK seq = .ok (q', b)) (hne : q' ≠ q) : b = true := by
  rw [processACK_eq] at h
  split at h
  · exact (Prod.mk.inj (Outcome.ok.inj h)).2.symm
  · exact absurd (Prod.mk.inj (Outcome.ok.inj h)).1.symm hne

/-- a NACK that changes the queue reports `bumped` -/
theorem nack_change_reported (q : Queue) (seq : Nat) (hne : (q.processNACK seq).1 ≠ q) :
    (q.processNACK seq).2.2 = true := by
  unfold Queue.processNACK at hne ⊢
  by_cases h1 : seq ≥ q.s
  · rw [if_pos h1] at hne
    exact absurd rfl hne
  rw [if_neg h1] at hne ⊢
  by_cases h2 : seq = q.top
  · rw [if_pos h2]
  rw [if_neg h2] at hne ⊢
  by_cases h3 : (!containsSequence q.base q.top seq) = true
  · rw [if_pos h3] at hne
    exact absurd rfl hne
  rw [if_neg h3] at hne ⊢
  -- the base moves to `seq`: no change means it was there already
  exact decide_eq_true fun hb => hne (hb ▸ rfl)

/-- the NACK the peer sends when it has received everything (it names the top of the queue)
    empties the queue, asks for no resend, and reports `bumped` -/
theorem nack_top_empties_and_reports (q : Queue) (ht : q.top < q.s) :
    (q.processNACK q.top).1.size = 0 ∧ (q.processNACK q.top).2.1 = false ∧ (q.processNACK q.top).2.2 = true := by
  rw [processNACK_top q ht]
  exact ⟨size_self q.s q.top, rfl, rfl⟩

/-! non-vacuity: window 2 (s = 3) full, NACK for the top -/
example : (Queue.processNACK ⟨3, 1, 0⟩ 0) = (⟨3, 0, 0⟩, false, true) := by decide
example : (⟨3, 1, 0⟩ : Queue).size = 2 := by decide

end Lnc.Props.C09
