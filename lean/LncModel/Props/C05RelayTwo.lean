import LncModel.Props.C05Relay
/-
  C05 / C01 — the relay layer with several goroutines inside the send function.

  `relay_layer_is_lossy_fifo` takes one sender at a time.  In a ServerConn the
  stream mutex is held per *attempt*, and Go-Back-N calls the send function from
  two goroutines (the send loop: DATA; the receive loop: ACK / NACK), so the
  retry of one payload can be overtaken by the other goroutine's payload: the
  physical sequence in the mailbox is then not an in-place duplication.  What
  the protocol theorems need (`bi_step`: each physical step is a step of one
  logical channel) is order per logical channel.  Here the unit is the single
  attempt, attempts of different goroutines interleave freely, and the claim is
  made per class of payloads `p` (DATA of one direction, or the responses of the
  other): if the attempts that carry `p`-payloads come from one goroutine (a
  failed attempt is followed, among the `p`-attempts, by an attempt with the
  same payload), the `p`-payloads handed out arise from the `p`-payloads sent by
  dropping and in-place repetition — whatever the other goroutine does in
  between.
-/
namespace Lnc.Props.C05
open Lnc Lnc.Mailbox.Relay

/-- one stream operation -/
inductive Att
  | send (m : Bytes) (t : SendTry)
  | recv (t : RecvTry)
deriving Repr, DecidableEq

def attStep (s : St) : Att → St
  | .send m .ok => { s with box := s.box ++ [m] }
  | .send _ .okLost => s
  | .send m (.fail q) => if q then { s with box := s.box ++ [m] } else s
  | .recv .ok => match s.box with
    | [] => s
    | h :: t => { box := t, got := s.got ++ [h] }
  | .recv (.fail taken) => match s.box with
    | [] => s
    | _ :: t => if taken then { s with box := t } else s

def attRun (s : St) (as : List Att) : St := as.foldl attStep s

/-- the `p`-payload calls started so far, in order, and whether the last of them is still being
    retried: a terminal attempt (`ok`, `okLost`) ends its call -/
def callsP (p : Bytes → Bool) : List Att → List Bytes × Bool → List Bytes × Bool
  | [], acc => acc
  | .recv _ :: r, acc => callsP p r acc
  | .send m t :: r, (cs, open_) =>
    if p m then
      let cs' := if open_ then cs else cs ++ [m]       -- a retry belongs to the open call
      callsP p r (cs', match t with | .fail _ => true | _ => false)
    else callsP p r (cs, open_)

/-- one goroutine per class: while a `p`-call is open (its last attempt failed), the next
    `p`-attempt carries the same payload -/
def OneSender (p : Bytes → Bool) : List Att → Option Bytes → Prop
  | [], _ => True
  | .recv _ :: r, o => OneSender p r o
  | .send m t :: r, o =>
    if p m then
      (match o with | some m' => m = m' | none => True) ∧
        OneSender p r (match t with | .fail _ => some m | _ => none)
    else OneSender p r o

theorem ld_filter_snoc {zs ys : List Bytes} (p : Bytes → Bool) (m : Bytes) (hp : p m = true)
    (h : LossyDup zs (ys.filter p)) (hl : zs.getLast? = some m) : LossyDup zs ((ys ++ [m]).filter p) := by
  rw [List.filter_append, List.filter_cons_of_pos hp]
  exact ld_snoc_emit m h hl

theorem filter_snoc_other (p : Bytes → Bool) (ys : List Bytes) (m : Bytes) (hp : p m = false) :
    (ys ++ [m]).filter p = ys.filter p := by
  rw [List.filter_append, List.filter_cons_of_neg (Bool.eq_false_iff.mp hp)]
  exact List.append_nil _

/-- invariant for class `p`: the `p`-payloads handed out and queued are a lossy image of the
    `p`-calls; while a call is open its payload is the last call -/
structure InvP (p : Bytes → Bool) (cs : List Bytes) (o : Option Bytes) (s : St) : Prop where
  ld : LossyDup cs ((s.got ++ s.box).filter p)
  last : ∀ m, o = some m → cs.getLast? = some m

theorem attStep_recv (s : St) (t : RecvTry) : attStep s (.recv t) = (recvCall [t] s).1 := by
  obtain ⟨box, got⟩ := s
  cases t <;> cases box <;> rfl

theorem attStep_send (s : St) (m : Bytes) (t : SendTry) :
    attStep s (.send m t) = s ∨ attStep s (.send m t) = { s with box := s.box ++ [m] } := by
  cases t with
  | ok => exact .inr rfl
  | okLost => exact .inl rfl
  | fail q =>
    cases q
    · exact .inl rfl
    · exact .inr rfl

theorem attRun_invP (p : Bytes → Bool) (as : List Att) (cs : List Bytes) (o : Option Bytes) (s : St)
    (hinv : InvP p cs o s) (hone : OneSender p as o) :
    LossyDup (callsP p as (cs, o.isSome)).1 (((attRun s as).got ++ (attRun s as).box).filter p) := by
  induction as generalizing cs o s with
  | nil => exact hinv.ld
  | cons a r ih =>
    cases a with
    | recv t =>
      exact ih cs o _ ⟨ld_sublist hinv.ld ((attStep_recv s t ▸ recvCall_sublist [t] s).filter p), hinv.last⟩ hone
    | send m t =>
      unfold callsP
      unfold OneSender at hone
      by_cases hp : p m = true
      case neg =>
        -- an attempt of the other class: the `p`-projection does not change
        rw [if_neg hp] at hone ⊢
        refine ih cs o _ ⟨?_, hinv.last⟩ hone
        rcases attStep_send s m t with h | h <;> rw [h]
        · exact hinv.ld
        · rw [← List.append_assoc, filter_snoc_other p _ m (Bool.eq_false_iff.mpr hp)]
          exact hinv.ld
      case pos =>
        rw [if_pos hp] at hone ⊢
        obtain ⟨hsame, hrest⟩ := hone
        -- the call this attempt belongs to is the last one: a new call, or the open one retried
        have hcs : InvP p (if o.isSome then cs else cs ++ [m]) (some m) s := by
          cases o with
          | none => exact ⟨ld_append_drop m hinv.ld, fun _ h => Option.some.inj h ▸ List.getLast?_concat⟩
          | some m' =>
            cases hsame
            exact hinv
        have hst : LossyDup (if o.isSome then cs else cs ++ [m])
            (((attStep s (.send m t)).got ++ (attStep s (.send m t)).box).filter p) := by
          rcases attStep_send s m t with h | h <;> rw [h]
          · exact hcs.ld
          · rw [← List.append_assoc]
            exact ld_filter_snoc p m hp hcs.ld (hcs.last m rfl)
        cases t with
        | fail q => exact ih _ (some m) _ ⟨hst, hcs.last⟩ hrest
        | ok | okLost => exact ih _ none _ ⟨hst, nofun⟩ hrest

/-- **per logical channel, the relay layer is a lossy, duplicating, order-keeping channel whatever
    the other goroutine does**: for every interleaving of single stream operations and every outcome
    of each, and every class `p` of payloads whose attempts come from one goroutine, the `p`-payloads
    handed to Go-Back-N arise from the `p`-payloads given to the send function by dropping some and
    repeating some in place. -/
theorem relay_layer_per_channel (p : Bytes → Bool) (as : List Att) (hone : OneSender p as none) :
    LossyDup (callsP p as ([], false)).1 ((attRun St.init as).got.filter p) :=
  ld_sublist (attRun_invP p as [] none St.init ⟨.nil, nofun⟩ hone) ((List.sublist_append_left _ _).filter p)

/-! non-vacuity: DATA payloads start with 2, responses with 3.  The retry of DATA [2,7] is overtaken
    by a response; per class the order is kept (the physical order [2,7] [3,1] [2,7] is not an
    in-place duplication). -/
def isData (b : Bytes) : Bool := b.head? == some 2
def demoAtts : List Att :=
  [.send [2, 7] (.fail true), .send [3, 1] .ok, .send [2, 7] .ok, .send [2, 8] .ok,
   .recv .ok, .recv .ok, .recv .ok, .recv .ok]
example : (attRun St.init demoAtts).got = [[2, 7], [3, 1], [2, 7], [2, 8]] := by decide
example : (callsP isData demoAtts ([], false)).1 = [[2, 7], [2, 8]] := by decide
example : OneSender isData demoAtts none := by simp [OneSender, demoAtts, isData]

end Lnc.Props.C05
