import LncModel.Shutdown
/-
  C12 — Close is idempotent, bounded, wakes blocked callers and leaks nothing
  (the ownership / wake-up logic; the runtime part — sync.Once, WaitGroup,
  context — is assumed to behave as documented and is exercised by the
  virtual-time sweeps).
-/
namespace Lnc.Props.C12
open Lnc.Gbn.Shutdown

/-- **Close reaches the end of `wg.Wait()` in every interleaving**: wherever the
    loop goroutines are blocked when Close starts, the signals Close raises
    before waiting release all of them. -/
theorem close_terminates (f : Facts) (h : waitReturns f = true) (c : Config)
    (hc : ∀ p ∈ c, p ∈ f.blocking) : stillBlocked f c = [] := by
  simp only [waitReturns, Bool.and_eq_true, List.all_eq_true] at h
  simp only [stillBlocked, List.filter_eq_nil_iff]
  intro p hp
  simp [h.2 p (hc p hp)]

/-- **afterwards no goroutine or timer of the connection is left**: everything
    that was created is stopped -/
theorem no_leak (f : Facts) (h : noLeak f = true) : ∀ r ∈ f.created, r ∈ f.stopped := by
  simp only [noLeak, List.all_eq_true, List.contains_iff_mem] at h
  exact h

/-- the pre-repair table (pong ticker created, never stopped) is rejected by the same predicate -/
theorem leak_counterexample :
    noLeak (⟨["pingTicker", "pongTicker", "resendTicker"], ["pingTicker", "resendTicker"], [], []⟩ : Facts) = false := by
  decide +kernel

/-- a loop that could block somewhere Close does not reach would make Close hang -/
theorem hang_counterexample :
    waitReturns (⟨[], [], ["close", "g.cancel", "g.wg.Wait"], [⟨"waitForSync", [.queueQuit]⟩]⟩ : Facts) = false := by
  decide +kernel

example : waitReturns (⟨[], [], ["close", "g.cancel", "g.sendQueue.stop", "g.wg.Wait"],
    [⟨"select", [.quit]⟩, ⟨"recvFromStream", [.ctxCancel]⟩, ⟨"waitForSync", [.queueQuit, .timer]⟩]⟩ : Facts) = true := by
  decide +kernel

end Lnc.Props.C12
