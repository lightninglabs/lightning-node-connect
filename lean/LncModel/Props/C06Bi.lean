import LncModel.Props.C06Recover
import LncModel.Props.C01Bi
/-
  C06 — recovery on the BIDIRECTIONAL system (Bi.lean): the two directions share
  the two physical channels, DATA of one direction is queued behind ACK/NACK of
  the other, and the per-direction recovery schedule of C06Recover.lean has to
  be realised on those shared FIFOs.

    (1) `settle_bi`   whatever is in flight on both channels drains: A→B, then
                      B→A (which now also holds the answers), then A→B again
                      (answers only): three passes suffice
    (2) `completeA`   with empty channels, direction A⇒B's resend round lifts
                      step by step to the physical system and completes that
                      direction; direction B⇒A by symmetry (`Bi.swap`)
    (3) `C06_bi_recovery`  from every reachable state of the bidirectional
                      system there is a schedule of retransmissions and in-order
                      deliveries only after which BOTH applications have
                      received everything the other side's Send accepted and
                      both send queues are empty.
-/
namespace Lnc.Props.C06
open Lnc Lnc.Gbn Lnc.Props.C01

def BiOK (n : Nat) (β : Bi) : Prop := β.Coupled ∧ Reachable n β.ab ∧ Reachable n β.ba

/-- labels of a reliable transport and idle applications on the physical system -/
def biReliable : BiLabel → Bool
  | .retransA _ => true
  | .retransB _ => true
  | .deliverAB _ => true
  | .deliverBA _ => true
  | _ => false

theorem bi_run_append (β : Bi) (a b : List BiLabel) :
    β.run? (a ++ b) = (β.run? a).bind (fun β' => β'.run? b) := by
  induction a generalizing β with
  | nil => rfl
  | cons l ls ih =>
    simp only [List.cons_append, Bi.run?]
    cases β.step? l with
    | none => rfl
    | some β1 => exact ih β1

theorem Bi.run_cons {β β1 : Bi} {l : BiLabel} (hs : β.step? l = some β1) (ls : List BiLabel) :
    β.run? (l :: ls) = β1.run? ls := by
  simp only [Bi.run?, hs]

theorem Bi.run_append {β β1 : Bi} {a : List BiLabel} (hr : β.run? a = some β1) (b : List BiLabel) :
    β.run? (a ++ b) = β1.run? b := by
  rw [bi_run_append, hr]
  rfl

theorem biOK_run {n : Nat} (ls : List BiLabel) {β β' : Bi} (h : BiOK n β) (hr : β.run? ls = some β') : BiOK n β' :=
  bi_run ls h.1 h.2.1 h.2.2 hr

theorem swap_swap (β : Bi) : β.swap.swap = β := β.swap_swap

theorem label_swap_swap (l : BiLabel) : l.swap.swap = l := l.swap_swap

/-- the transition function is symmetric in the two endpoints -/
theorem step_swap (β : Bi) (l : BiLabel) : β.swap.step? l.swap = (β.step? l).map Bi.swap :=
  β.step_swap l

theorem run_swap (ls : List BiLabel) : ∀ β : Bi, β.swap.run? (ls.map BiLabel.swap) = (β.run? ls).map Bi.swap := by
  induction ls with
  | nil => intro β; rfl
  | cons l ls ih =>
    intro β
    simp only [List.map_cons, Bi.run?, step_swap]
    cases β.step? l with
    | none => rfl
    | some β1 => exact ih β1

theorem run_of_swap {β γ : Bi} {ls : List BiLabel} (hr : β.swap.run? ls = some γ) :
    β.run? (ls.map BiLabel.swap) = some γ.swap := by
  have := run_swap ls β.swap
  rwa [swap_swap, hr] at this

theorem biOK_swap {n : Nat} {β : Bi} (h : BiOK n β) : BiOK n β.swap :=
  ⟨h.1.swap, h.2.2, h.2.1⟩

theorem biReliable_swap (l : BiLabel) : biReliable l.swap = biReliable l := by cases l <;> rfl

theorem deliverAB_step {n : Nat} (hn : 0 < n) (hn254 : n ≤ 254) (β : Bi) (h : BiOK n β) (w : Wire) (rest : List Wire)
    (hc : β.chAB = w :: rest) (b : Bool) :
    ∃ β', β.step? (.deliverAB b) = some β' ∧ β'.chAB = rest ∧
      (∃ ext, β'.chBA = β.chBA ++ ext ∧ dataOf ext = [] ∧ (∀ r, w = .resp r → ext = [])) ∧
      β'.ab.log = β.ab.log ∧ β'.ba.log = β.ba.log := by
  obtain ⟨hcp, hra, hrb⟩ := h
  cases w with
  | data d =>
    obtain ⟨σ1, hs, _, _, hl, _⟩ := fwdDeliver_cons β.ab d (dataOf rest) b (hcp.head_data hc).1
    simp only [Bi.step?, hc, hs, Option.map_some]
    exact ⟨_, rfl, rfl, ⟨_, rfl, dataOf_map_resp _, fun r hr => Wire.noConfusion hr⟩, hl, rfl⟩
  | resp r =>
    obtain ⟨q', hs⟩ := bwdDeliver_enabled β.ba (inv_reachable hn hn254 hrb) r (respOf rest) (hcp.head_resp hc).2
    simp only [Bi.step?, hc, hs, Option.map_some]
    exact ⟨_, rfl, rfl, ⟨[], (List.append_nil _).symm, rfl, fun _ _ => rfl⟩, rfl, rfl⟩

/-- one pass over the channel A→B: everything on it is consumed; what the pass adds
    to the channel B→A are answers only, and nothing if the pass met answers only -/
theorem drainAB {n : Nat} (hn : 0 < n) (hn254 : n ≤ 254) (k : Nat) : ∀ β : Bi, BiOK n β → β.chAB.length = k →
    ∃ β', β.run? (List.replicate k (.deliverAB true)) = some β' ∧ BiOK n β' ∧ β'.chAB = [] ∧
      (∃ ext, β'.chBA = β.chBA ++ ext ∧ dataOf ext = [] ∧ (dataOf β.chAB = [] → ext = [])) ∧
      β'.ab.log = β.ab.log ∧ β'.ba.log = β.ba.log := by
  induction k with
  | zero =>
    intro β h hk
    exact ⟨β, rfl, h, List.length_eq_zero_iff.mp hk, ⟨[], (List.append_nil _).symm, rfl, fun _ => rfl⟩, rfl, rfl⟩
  | succ k ih =>
    intro β h hk
    obtain ⟨w, rest, hc⟩ := List.exists_cons_of_length_eq_add_one hk
    obtain ⟨β1, hs, hch, ⟨e1, he1, hd1, hr1⟩, hl1, hl2⟩ := deliverAB_step hn hn254 β h w rest hc true
    rw [hc] at hk
    obtain ⟨β', hr, hok, hnil, ⟨e2, he2, hd2, hr2⟩, hl3, hl4⟩ :=
      ih β1 (bi_step h.1 h.2.1 h.2.2 hs) (hch ▸ Nat.succ.inj hk)
    refine ⟨β', (Bi.run_cons hs _).trans hr, hok, hnil,
      ⟨e1 ++ e2, by rw [he2, he1, List.append_assoc], by rw [dataOf_append, hd1, hd2]; rfl, ?_⟩,
      hl3.trans hl1, hl4.trans hl2⟩
    intro hd
    rw [hc] at hd
    cases w with
    | data d => cases hd
    | resp r => rw [hr1 r rfl, hr2 (hch ▸ hd)]; rfl

/-- the same pass over the channel B→A -/
theorem drainBA {n : Nat} (hn : 0 < n) (hn254 : n ≤ 254) (k : Nat) (β : Bi) (h : BiOK n β) (hk : β.chBA.length = k) :
    ∃ β', β.run? (List.replicate k (.deliverBA true)) = some β' ∧ BiOK n β' ∧ β'.chBA = [] ∧
      (∃ ext, β'.chAB = β.chAB ++ ext ∧ dataOf ext = [] ∧ (dataOf β.chBA = [] → ext = [])) ∧
      β'.ab.log = β.ab.log ∧ β'.ba.log = β.ba.log := by
  obtain ⟨γ, hr, hok, hnil, hext, hl1, hl2⟩ := drainAB hn hn254 k β.swap (biOK_swap h) hk
  refine ⟨γ.swap, ?_, biOK_swap hok, hnil, hext, hl2, hl1⟩
  rw [← run_of_swap hr, List.map_replicate]
  rfl

/-- **(1) both physical channels drain in three passes**, from every state the
    bidirectional system can be in -/
theorem settle_bi {n : Nat} (hn : 0 < n) (hn254 : n ≤ 254) (β : Bi) (h : BiOK n β) :
    ∃ ls β', β.run? ls = some β' ∧ (∀ l ∈ ls, biReliable l = true) ∧ BiOK n β' ∧
      β'.chAB = [] ∧ β'.chBA = [] ∧ β'.ab.log = β.ab.log ∧ β'.ba.log = β.ba.log := by
  obtain ⟨β1, r1, ok1, n1, _, a1, b1⟩ := drainAB hn hn254 _ β h rfl
  obtain ⟨β2, r2, ok2, n2, ⟨e2, he2, hd2, _⟩, a2, b2⟩ := drainBA hn hn254 _ β1 ok1 rfl
  obtain ⟨β3, r3, ok3, n3, ⟨e3, he3, _, hz3⟩, a3, b3⟩ := drainAB hn hn254 _ β2 ok2 rfl
  -- after the second pass the channel A→B holds answers only, so the third adds nothing to B→A
  have he3' : e3 = [] := hz3 (by rw [he2, n1]; exact hd2)
  refine ⟨_ ++ (_ ++ _), β3, (Bi.run_append r1 _).trans ((Bi.run_append r2 _).trans r3), ?_, ok3, n3,
    by rw [he3, n2, he3']; rfl, a3.trans (a2.trans a1), b3.trans (b2.trans b1)⟩
  intro l hl
  simp only [List.mem_append, List.mem_replicate] at hl
  rcases hl with ⟨_, rfl⟩ | ⟨_, rfl⟩ | ⟨_, rfl⟩ <;> rfl

def liftA : Label → BiLabel
  | .retransmit i => .retransA i
  | .fwdDeliver b => .deliverAB b
  | .bwdDeliver => .deliverBA true
  | .sendNew p => .sendA p
  | .fwdDup => .dupAB
  | .fwdDrop => .dropAB
  | .bwdDup => .dupBA
  | .bwdDrop => .dropBA

/-- the physical channels carry the packets of direction A⇒B only -/
structure PureA (β : Bi) : Prop where
  ab : β.chAB = β.ab.fwd.map Wire.data
  ba : β.chBA = β.ab.bwd.map Wire.resp

theorem liftA_step (β : Bi) (hq : PureA β) (l : Label) (hl : reliable l = true) (σ' : Uni)
    (hs : β.ab.step? l = some σ') :
    ∃ β', β.step? (liftA l) = some β' ∧ β'.ab = σ' ∧ β'.ba = β.ba ∧ PureA β' := by
  cases l with
  | retransmit i =>
    obtain ⟨d, hf, hb⟩ := step_retransmit hs
    simp only [liftA, Bi.step?, hs, Option.map_some]
    refine ⟨_, rfl, rfl, rfl, ?_, hq.ba.trans (congrArg _ hb.symm)⟩
    show β.chAB ++ newFwd β.ab σ' = σ'.fwd.map Wire.data
    rw [newFwd_single hf, hf, hq.ab, List.map_append]
    rfl
  | fwdDeliver b =>
    obtain ⟨d, rest, extra, hf, hf', hb'⟩ := step_fwdDeliver hs
    have hch : β.chAB = Wire.data d :: rest.map Wire.data := hq.ab.trans (congrArg _ hf)
    simp only [liftA, Bi.step?, hch, hs, Option.map_some]
    refine ⟨_, rfl, rfl, rfl, congrArg _ hf'.symm, ?_⟩
    show β.chBA ++ newBwd β.ab σ' = σ'.bwd.map Wire.resp
    rw [newBwd_extra hb', hb', hq.ba, List.map_append]
  | bwdDeliver =>
    obtain ⟨r, rest, hb, hb', hf'⟩ := step_bwdDeliver hs
    have hch : β.chBA = Wire.resp r :: rest.map Wire.resp := hq.ba.trans (congrArg _ hb)
    simp only [liftA, Bi.step?, hch, hs, Option.map_some]
    exact ⟨_, rfl, rfl, rfl, hq.ab.trans (congrArg _ hf'.symm), congrArg _ hb'.symm⟩
  | sendNew p | fwdDup | fwdDrop | bwdDup | bwdDrop => cases hl

theorem liftA_run (ls : List Label) : ∀ (β : Bi) (σ' : Uni), PureA β → (∀ l ∈ ls, reliable l = true) →
    β.ab.run? ls = some σ' →
    ∃ β', β.run? (ls.map liftA) = some β' ∧ β'.ab = σ' ∧ β'.ba = β.ba ∧ PureA β' := by
  induction ls with
  | nil =>
    intro β σ' hq _ hr
    exact ⟨β, rfl, Option.some.inj hr, rfl, hq⟩
  | cons l ls ih =>
    intro β σ' hq hrel hr
    simp only [Uni.run?] at hr
    split at hr
    · next σ1 h1 =>
      obtain ⟨hl, hrel'⟩ := List.forall_mem_cons.mp hrel
      obtain ⟨β1, hs, e1, e2, q1⟩ := liftA_step β hq l hl σ1 h1
      obtain ⟨β', hr', f1, f2, q'⟩ := ih β1 σ' q1 hrel' (e1 ▸ hr)
      exact ⟨β', (Bi.run_cons hs _).trans hr', f1, f2.trans e2, q'⟩
    · cases hr

theorem liftA_reliable (l : Label) (h : reliable l = true) : biReliable (liftA l) = true := by
  cases l <;> first | rfl | cases h

/-- **(2) with empty channels, direction A⇒B completes** by its resend round,
    realised on the shared channels; direction B⇒A is not touched -/
theorem completeA {n : Nat} (hn : 0 < n) (hn254 : n ≤ 254) (β : Bi) (h : BiOK n β) (hA : β.chAB = []) (hB : β.chBA = []) :
    ∃ ls β', β.run? ls = some β' ∧ (∀ l ∈ ls, biReliable l = true) ∧ BiOK n β' ∧
      β'.chAB = [] ∧ β'.chBA = [] ∧ β'.ba = β.ba ∧
      β'.ab.out = β.ab.accepted ∧ β'.ab.q.size = 0 ∧ β'.ab.log = β.ab.log := by
  have hf : β.ab.fwd = [] := by rw [h.1.abFwd, hA]; rfl
  have hb : β.ab.bwd = [] := by rw [h.1.abBwd, hB]; rfl
  have hq : PureA β := ⟨by rw [hA, hf]; rfl, by rw [hB, hb]; rfl⟩
  obtain ⟨m, σ', hr, ho, hs, hf', hb', _, _, _, hl, _⟩ :=
    resend_round_completes β.ab (inv_reachable hn hn254 h.2.1) hf hb (List.replicate _ true) List.length_replicate
      fun _ hlt => by rw [List.head?_replicate, if_neg (Nat.sub_ne_zero_of_lt hlt)]
  obtain ⟨β', hr', rfl, e2, q'⟩ := liftA_run _ β σ' hq (round_reliable _ _ _ _) hr
  refine ⟨_, β', hr', ?_, biOK_run _ h hr', by rw [q'.ab, hf']; rfl, by rw [q'.ba, hb']; rfl, e2, ho, hs, hl⟩
  exact List.forall_mem_map.mpr fun l0 h0 => liftA_reliable l0 (round_reliable _ _ _ _ l0 h0)

theorem bi_recovery_of_ok {n : Nat} (hn : 0 < n) (hn254 : n ≤ 254) (β : Bi) (h : BiOK n β) :
    ∃ ls β', β.run? ls = some β' ∧ (∀ l ∈ ls, biReliable l = true) ∧
      β'.ab.out = β.ab.accepted ∧ β'.ba.out = β.ba.accepted ∧
      β'.ab.q.size = 0 ∧ β'.ba.q.size = 0 ∧ β'.chAB = [] ∧ β'.chBA = [] := by
  obtain ⟨l1, β1, r1, rel1, ok1, a1, b1, la1, lb1⟩ := settle_bi hn hn254 β h
  obtain ⟨l2, β2, r2, rel2, ok2, a2, b2, eba2, out2, sz2, _⟩ := completeA hn hn254 β1 ok1 a1 b1
  -- direction B⇒A completes in the mirror image
  obtain ⟨l3, γ, r3, rel3, _, a3, b3, eba3, out3, sz3, _⟩ := completeA hn hn254 β2.swap (biOK_swap ok2) b2 a2
  refine ⟨l1 ++ (l2 ++ l3.map BiLabel.swap), γ.swap,
    (Bi.run_append r1 _).trans ((Bi.run_append r2 _).trans (run_of_swap r3)), ?_,
    (congrArg Uni.out eba3).trans (out2.trans (congrArg (List.filter _) la1)),
    out3.trans ((congrArg Uni.accepted eba2).trans (congrArg (List.filter _) lb1)),
    (congrArg (·.q.size) eba3).trans sz2, sz3, b3, a3⟩
  exact List.forall_mem_append.mpr ⟨rel1, List.forall_mem_append.mpr ⟨rel2,
    List.forall_mem_map.mpr fun l0 h0 => (biReliable_swap l0).trans (rel3 l0 h0)⟩⟩

/-- **C06, recovery of the bidirectional connection (untimed).**  From every
    state the two endpoints and the two shared channels can reach — any window
    size, any interleaving of both directions' traffic, any history of loss,
    in-place duplication and delay — a schedule of retransmissions and in-order
    deliveries alone leads to a state in which each application has received
    exactly what the other side's Send accepted, both send queues are empty and
    nothing is in flight. -/
theorem C06_bi_recovery (n : Nat) (hn : 0 < n) (hn254 : n ≤ 254) (β : Bi) (hr : BiReachable n β) :
    ∃ ls β', β.run? ls = some β' ∧ (∀ l ∈ ls, biReliable l = true) ∧
      β'.ab.out = β.ab.accepted ∧ β'.ba.out = β.ba.accepted ∧
      β'.ab.q.size = 0 ∧ β'.ba.q.size = 0 ∧ β'.chAB = [] ∧ β'.chBA = [] :=
  bi_recovery_of_ok hn hn254 β (bi_reachable hr)

/-! non-vacuity: both directions stalled (everything dropped), then recovered -/
def biStalled : Option Bi :=
  (Bi.init 2).run? [.sendA ⟨[1], true, false⟩, .sendB ⟨[7], true, false⟩, .sendA ⟨[2], true, false⟩,
    .dropAB, .dropAB, .dropBA]

example : (biStalled.map fun β => (β.chAB.length, β.chBA.length, β.ab.out.length, β.ba.out.length, β.ab.q.size, β.ba.q.size)) =
    some (0, 0, 0, 0, 2, 1) := by decide

example : ((biStalled.bind fun β => β.run? [.retransA 0, .retransA 1, .deliverAB true, .deliverAB true, .deliverBA true,
      .deliverBA true, .retransB 0, .deliverBA true, .deliverAB true]).map
    fun β => (β.ab.out.map (·.payload), β.ba.out.map (·.payload), β.ab.q.size, β.ba.q.size, β.chAB.length, β.chBA.length)) =
    some ([[1], [2]], [[7]], 0, 0, 0, 0) := by decide

end Lnc.Props.C06
