import LncModel.Cipher
/-
  C08 — Cipher stream: fresh nonces, lock-step key rotation, no plaintext on
  the wire.  `R` is the rotation interval (obligation on the regenerated facts:
  keyRotationInterval = 1000 > 0).
-/
namespace Lnc.Props.C08
open Lnc Lnc.Mailbox.Cipher

theorem after_eq (R k e n : Nat) (hn : n < R) :
    CS.after R k ⟨e, n⟩ = ⟨e + (n + k) / R, (n + k) % R⟩ := by
  induction k generalizing e n with
  | zero => rw [CS.after, Nat.add_zero, Nat.div_eq_of_lt hn, Nat.mod_eq_of_lt hn, Nat.add_zero]
  | succ k ih =>
    have hR : 0 < R := Nat.zero_lt_of_lt hn
    unfold CS.after CS.next
    by_cases h : n + 1 = R
    · rw [if_pos h, ih (e + 1) 0 hR, show n + (k + 1) = 0 + k + R by omega, Nat.add_div_right _ hR,
        Nat.add_mod_right, Nat.add_right_comm, Nat.add_assoc]
    · rw [if_neg h, ih e (n + 1) (Nat.lt_of_le_of_ne hn h), Nat.add_right_comm n 1 k, Nat.add_assoc n k 1]

/-- state after `k` uses, in closed form -/
theorem kth_use (R : Nat) (hR : 0 < R) (k : Nat) :
    CS.after R k CS.init = ⟨k / R, k % R⟩ := by
  rw [CS.init, after_eq R k 0 0 hR, Nat.zero_add, Nat.zero_add]

/-- **every use has a fresh (key, nonce) pair**: distinct use counts never
    share epoch and nonce -/
theorem fresh (R : Nat) (hR : 0 < R) (k k' : Nat) (h : k ≠ k') :
    CS.after R k CS.init ≠ CS.after R k' CS.init := by
  rw [kth_use R hR, kth_use R hR]
  intro he
  injection he with h1 h2
  apply h
  rw [← Nat.div_add_mod k R, ← Nat.div_add_mod k' R, h1, h2]

theorem openCt_sealCt (dir : Nat) (c : CS) (p : Bytes) : openCt dir c (sealCt dir c p) = some p :=
  if_pos ⟨rfl, rfl, rfl⟩

theorem openCt_sealCt_ne {dir dir' : Nat} {c c' : CS} (p : Bytes) (h : dir ≠ dir' ∨ c ≠ c') :
    openCt dir' c' (sealCt dir c p) = none :=
  if_neg fun ⟨hd, he, hn⟩ => h.elim (· hd) (· (congr (congrArg CS.mk he) hn))

/-- **equal plaintexts never produce equal ciphertexts** (within a direction,
    and across directions since the direction's key is part of the term) -/
theorem equal_plaintexts_distinct_ciphertexts (R : Nat) (hR : 0 < R) (dir k k' : Nat) (p : Bytes)
    (h : k ≠ k') :
    sealCt dir (CS.after R k CS.init) p ≠ sealCt dir (CS.after R k' CS.init) p :=
  fun he => fresh R hR k k' h (congrArg (fun ct : Ct => (⟨ct.epoch, ct.nonce⟩ : CS)) he)

theorem after_add (R a b : Nat) (c : CS) : CS.after R (a + b) c = CS.after R b (CS.after R a c) := by
  induction a generalizing c with
  | zero => rw [Nat.zero_add]; rfl
  | succ a ih => rw [Nat.succ_add]; exact ih _

/-- **lock-step**: writer and reader, started from equal states, stay equal
    record after record, across any number of rotation boundaries; and the
    reader recovers exactly what was written -/
theorem stream_decrypts (R dir : Nat) (c : CS) (recs : List Bytes) :
    readAll R dir c (writeAll R dir c recs) = recs := by
  induction recs generalizing c with
  | nil => rfl
  | cons p ps ih =>
    unfold writeAll writeRecord readAll readRecord
    simp only [openCt_sealCt]
    rw [ih]

/-- the two directions share nothing: a unit of the other direction never opens -/
theorem no_cross_direction (dir dir' : Nat) (c : CS) (p : Bytes) (h : dir ≠ dir') :
    openCt dir' c (sealCt dir c p) = none :=
  openCt_sealCt_ne p (.inl h)

/-- a unit sealed at another use count never opens (no replay, no reordering) -/
theorem no_replay (R : Nat) (hR : 0 < R) (dir k k' : Nat) (p : Bytes) (h : k ≠ k') :
    openCt dir (CS.after R k' CS.init) (sealCt dir (CS.after R k CS.init) p) = none :=
  openCt_sealCt_ne p (.inr (fresh R hR k k' h))

/-- **no record observable on the wire contains the plaintext in the clear**:
    syntactically, everything `writeAll` puts on the wire is a sealed unit -/
theorem wire_is_ciphertext (R dir : Nat) (c : CS) (recs : List Bytes) :
    ∀ u ∈ writeAll R dir c recs, ∃ c1 c2 p, u = (sealCt dir c1 (lenHdr p.length), sealCt dir c2 p) ∧ p ∈ recs := by
  induction recs generalizing c with
  | nil => nofun
  | cons p ps ih =>
    intro u hu
    simp only [writeAll, writeRecord, List.mem_cons] at hu
    rcases hu with rfl | hu
    · exact ⟨c, c.next R, p, rfl, List.mem_cons_self⟩
    · obtain ⟨c1, c2, q, h1, h2⟩ := ih _ u hu
      exact ⟨c1, c2, q, h1, List.mem_cons_of_mem _ h2⟩

/-! non-vacuity: rotation after 1000 uses = 500 records -/
example : CS.after 1000 999 CS.init = ⟨0, 999⟩ := by rw [kth_use 1000 (by omega)]
example : CS.after 1000 1000 CS.init = ⟨1, 0⟩ := by rw [kth_use 1000 (by omega)]
example : CS.after 3 7 CS.init = ⟨2, 1⟩ := by decide

end Lnc.Props.C08
