import LncModel.Handshake
/-
  C10 — GBN handshake: both ends use the window the client proposed (safety
  part; convergence in time is established by exploration under virtual time).
-/
namespace Lnc.Props.C10
open Lnc Lnc.Gbn Lnc.Gbn.Hs

/-- what the server's registers may hold, given the SYNs it has received so far -/
def SrvOK (syns : List Nat) : Srv → Prop
  | .s0 false _ => True
  | .s0 true n => validN n = true ∧ n ∈ syns
  | .s1 _ n => validN n = true ∧ n ∈ syns
  | .done n => validN n = true ∧ n ∈ syns
  | .fail _ => True

theorem SrvOK_mono {syns syns' : List Nat} (h : ∀ x ∈ syns, x ∈ syns') :
    ∀ st, SrvOK syns st → SrvOK syns' st
  | .s0 true _, hn | .s1 _ _, hn | .done _, hn => hn.imp_right (h _)
  | .s0 false _, _ | .fail _, _ => trivial

theorem srvOnSyn_ok (syns : List Nat) (r : Bool) (n' : Nat) :
    SrvOK (syns ++ [n']) (srvOnSyn r n').1 := by
  unfold srvOnSyn
  split
  · next hv => exact ⟨hv, List.mem_append_right syns (.head _)⟩
  · trivial

theorem srv_step_ok (g : Nat) (syns : List Nat) (st : Srv) (e : Ev) (h : SrvOK syns st) :
    SrvOK (syns ++ synsIn g [e]) (srvStep g st e).1 := by
  replace h := SrvOK_mono (fun _ => List.mem_append_left (synsIn g [e])) st h
  fun_cases srvStep g st e
  -- a SYN, in either waiting state, is the one step that takes a window from the wire
  case case1 hd | case12 hd =>
    simp only [synsIn, List.filterMap_cons, hd, List.filterMap_nil]
    exact srvOnSyn_ok syns _ _
  -- every other step keeps the window it had, or fails, and `SrvOK` asks nothing of a failed server
  all_goals first | exact h | trivial

theorem synsIn_append (g : Nat) (a b : List Ev) : synsIn g (a ++ b) = synsIn g a ++ synsIn g b :=
  List.filterMap_append

theorem srv_run_ok (g : Nat) (evs : List Ev) (syns : List Nat) (st : Srv) (h : SrvOK syns st) :
    SrvOK (syns ++ synsIn g evs) (srvRun g st evs) := by
  induction evs generalizing syns st with
  | nil => exact (List.append_nil syns).symm ▸ h
  | cons e es ih =>
    rw [show synsIn g (e :: es) = _ from synsIn_append g [e] es, ← List.append_assoc]
    exact ih _ _ (srv_step_ok g syns st e h)

/-- **A server never enters the data phase with a window size that it did not
    receive in a SYN, nor with one the protocol cannot represent** — for every
    sequence of received byte strings (honest, duplicated, stale, garbage) and
    timeouts. -/
theorem server_done (g : Nat) (evs : List Ev) (n : Nat) (h : srvRun g srvStart evs = .done n) :
    1 ≤ n ∧ n ≤ 254 ∧ n ∈ synsIn g evs := by
  obtain ⟨hv, hm⟩ : SrvOK _ (.done n) := h ▸ srv_run_ok g evs [] srvStart trivial
  exact ⟨(of_decide_eq_true hv).1, (of_decide_eq_true hv).2, hm⟩

/-- client side: it proceeds only when a SYN echoing its own window was delivered -/
theorem client_run_ok (g : Nat) (evs : List Ev) (N : Nat) :
    ∀ st, (st = .waiting N ∨ st = .done N ∨ ∃ w, st = .fail w) →
      (cliRun g st evs = .waiting N ∨ cliRun g st evs = .done N ∨ ∃ w, cliRun g st evs = .fail w) := by
  induction evs with
  | nil => exact fun _ h => h
  | cons e es ih =>
    refine fun st h => ih (cliStep g st e).1 ?_
    rcases h with rfl | rfl | ⟨w, rfl⟩
    · cases e with
      | timeout => exact .inl rfl
      | recv b =>
        simp only [cliStep]
        split
        · split
          · exact .inr (.inl rfl)
          · exact .inr (.inr ⟨_, rfl⟩)
        · exact .inl rfl
        · exact .inr (.inr ⟨_, rfl⟩)
        · exact .inr (.inr ⟨_, rfl⟩)
    · exact .inr (.inl (by cases e <;> rfl))
    · exact .inr (.inr ⟨w, by cases e <;> rfl⟩)

theorem cliRun_fail (g : Nat) (w : String) (evs : List Ev) : cliRun g (.fail w) evs = .fail w := by
  induction evs with
  | nil => rfl
  | cons e es ih => cases e <;> exact ih

theorem client_done (g : Nat) (evs : List Ev) (N n : Nat)
    (h : cliRun g (cliStart N).1 evs = .done n) : n = N ∧ 1 ≤ N ∧ N ≤ 254 := by
  unfold cliStart at h
  split at h
  · next hv =>
    rcases client_run_ok g evs N _ (.inl rfl) with h1 | h1 | ⟨w, h1⟩
    · cases h1.symm.trans h
    · cases h1.symm.trans h
      exact ⟨rfl, of_decide_eq_true hv⟩
    · cases h1.symm.trans h
  · cases (cliRun_fail g _ evs).symm.trans h

/-- **Agreement.**  If every SYN the server ever received carries the client's
    window `N` (no stale SYN of an earlier connection with another window), then
    whenever both sides reach the data phase they use `N`. -/
theorem C10_agree_partial (g : Nat) (N : Nat) (cevs sevs : List Ev) (nc ns : Nat)
    (hs : ∀ m ∈ synsIn g sevs, m = N)
    (hc : cliRun g (cliStart N).1 cevs = .done nc) (hsv : srvRun g srvStart sevs = .done ns) :
    nc = N ∧ ns = N ∧ 1 ≤ N ∧ N ≤ 254 := by
  obtain ⟨h1, h2, h3⟩ := client_done g cevs N nc hc
  obtain ⟨_, _, hm⟩ := server_done g sevs ns hsv
  exact ⟨h1, hs ns hm, h2, h3⟩

/-- The statement without the hypothesis on stale SYNs is false of the
    protocol: with a stale `SYN 7` and a stale `SYNACK` of an earlier connection
    queued towards the server, and a stale `SYN 3` queued towards the client,
    the client of window 3 and the server finish with different windows. -/
def C10_statement : Prop :=
  ∀ (g N : Nat) (cevs sevs : List Ev) (nc ns : Nat),
    cliRun g (cliStart N).1 cevs = .done nc → srvRun g srvStart sevs = .done ns → ns = nc

theorem C10_stale_counterexample : ¬ C10_statement := by
  intro h
  have := h 4 3 [.recv [1, 3]] [.recv [1, 7], .recv [6]] 3 7 (by decide) (by decide)
  revert this; decide

/-! non-vacuity -/
example : srvRun 4 srvStart [.recv [1, 20], .timeout, .recv [2, 0, 1, 0, 9]] = .done 20 := by decide
example : srvRun 4 srvStart [.recv [1, 255]] = .fail "invalid window size" := by decide
example : srvRun 4 srvStart [.recv [1, 0]] = .fail "invalid window size" := by decide
example : cliRun 4 (cliStart 20).1 [.timeout, .recv [3, 1], .recv [1, 20]] = .done 20 := by decide

end Lnc.Props.C10
