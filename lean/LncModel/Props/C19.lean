import LncModel.GbnCodec
import LncModel.MsgData
/-
  C19 — Wire codecs round-trip for all field values.
  Property theorems only.  `g` is the DATA length guard of `Deserialize`
  (`len(b) < g`), instantiated from the regenerated facts in Facts/Instances.
-/
namespace Lnc.Props.C19
open Lnc Lnc.Gbn Lnc.Mailbox

theorem boolByte_true_iff (b : Bool) : (boolByte b == bTRUE) = b := by
  cases b <;> rfl

/-- Every GBN packet deserialises from its own serialisation to an equal value:
    all six types, all 256 values of `Seq`/`N`, both flags, any payload. -/
theorem gbn_roundtrip (g : Nat) (hg : g ≤ 4) (m : Msg) :
    deserializeG g (serialize m) = .ok m := by
  cases m with
  | data seq fin ping pl =>
    rw [serialize, deserializeG, if_pos rfl, if_neg]
    · show Outcome.ok (Msg.data seq (boolByte fin == bTRUE) (boolByte ping == bTRUE) pl) = _
      rw [boolByte_true_iff, boolByte_true_iff]
    · exact Nat.not_lt_of_le (Nat.le_trans hg (Nat.le_add_left 4 pl.length))
  -- the other packets have a fixed shape: the decoder runs on them as they stand
  | _ => rfl

/-- Any bytes that deserialise successfully re-serialise to a packet that
    deserialises to the same value again. -/
theorem gbn_canonical (g : Nat) (hg : g ≤ 4) (b : Bytes) (m : Msg)
    (_h : deserializeG g b = .ok m) : deserializeG g (serialize m) = .ok m :=
  gbn_roundtrip g hg m

/-- Non-vacuity: `gbn_canonical`'s hypothesis is met by non-canonical bytes
    (flag byte 7, trailing garbage on an ACK). -/
example : deserializeG 4 [2, 9, 7, 1, 0xAA] = .ok (.data 9 false true [0xAA]) := by decide
example : deserializeG 4 [3, 200, 1, 2, 3] = .ok (.ack 200) := by decide

/-! MsgData -/

theorem toNat_ofNat_mod (k : Nat) : (UInt8.ofNat (k % 256)).toNat = k % 256 := by
  rw [UInt8.toNat_ofNat', Nat.mod_mod]

/-- a base-256 digit put back in front of the digits below it (`m` is `k * 256`, evaluated) -/
theorem digit_add_mod (n k m : Nat) (hm : m = k * 256) : n / k % 256 * k + n % k = n % m := by
  rw [hm, Nat.mod_mul, Nat.add_comm, Nat.mul_comm]

theorem readBe32_be32 (n : Nat) (h : n < 4294967296) :
    readBe32 (UInt8.ofNat (n / 16777216 % 256)) (UInt8.ofNat (n / 65536 % 256))
      (UInt8.ofNat (n / 256 % 256)) (UInt8.ofNat (n % 256)) = n := by
  simp only [readBe32, toNat_ofNat_mod]
  rw [Nat.add_assoc, digit_add_mod n 256 65536 rfl, Nat.add_assoc, digit_add_mod n 65536 16777216 rfl,
    digit_add_mod n 16777216 4294967296 rfl]
  exact Nat.mod_eq_of_lt h

/-- Control-message round trip for every version byte, every payload whose length
    fits the 32-bit prefix, and every receiver object — fresh or used before. -/
theorem msgdata_roundtrip (recv : MsgData) (v : UInt8) (p : Bytes)
    (hlen : p.length < 4294967296) :
    MsgData.deserializeInto recv (MsgData.serialize ⟨v, p⟩) = .ok ⟨v, p⟩ := by
  simp only [MsgData.serialize, Nat.mod_eq_of_lt hlen, be32, List.cons_append, List.nil_append,
    MsgData.deserializeInto, readBe32_be32 p.length hlen]
  cases p with
  | nil => rfl
  | cons x xs =>
    have hp : (x :: xs).length > 0 := Nat.succ_pos _
    simp only [hp, ↓reduceIte, List.take_length]
    refine if_neg ?_
    simp only [List.length_cons]
    omega

/-- before repair (finding 19) the statement needed a fresh receiver: a used one kept
    its old payload when a message without payload arrived -/
theorem msgdata_reuse_counterexample :
    MsgData.deserializeIntoOld ⟨1, [0xAA]⟩ (MsgData.serialize ⟨2, []⟩) = .ok ⟨2, [0xAA]⟩ := by decide

theorem msgdata_canonical (b : Bytes) (m : MsgData)
    (h : MsgData.deserialize b = .ok m) (hlen : m.payload.length < 4294967296) :
    MsgData.deserialize (MsgData.serialize m) = .ok m := by
  cases m with
  | mk v p => exact msgdata_roundtrip _ v p hlen

example : MsgData.deserialize [7, 0, 0, 0, 2, 0xAA, 0xBB, 0xCC] = .ok ⟨7, [0xAA, 0xBB]⟩ := by decide

end Lnc.Props.C19
